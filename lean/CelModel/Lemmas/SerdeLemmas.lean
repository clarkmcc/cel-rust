import CelModel.Serde
import CelModel.Lemmas.AList
/-!
# Lemmas for C17 / C18

The equations of the converters; `Rel`, the relation between the value-map and the JSON-object
accumulator, which both conversions of a map or struct keep entry by entry (`Rel.insert`) and from
which the export of the finished map is read off (`Rel.toJson_map`); the re-import of an object
with distinct keys (`fromJsonFields_fresh`).
-/
namespace Cel.Serde.Lemmas

/-! the equations of the converters that C17 / C18 step through, each by `rfl`; to be used instead
of `rw [toValue]` and the like, which need the unfolding lemma of the whole 24-clause mutual
definition -/
theorem toValue_newtypeVariant (n v : String) (d : Data) : toValue (.newtypeVariant n v d) =
    match toValue d with | .ok x => .ok (.map [(.str v.toList, x)]) | .error e => .error e := rfl
theorem toValue_tupleVariant (n v : String) (ds : List Data) : toValue (.tupleVariant n v ds) =
    match toValues ds with | .ok xs => .ok (.map [(.str v.toList, .list xs)]) | .error e => .error e := rfl
theorem toValue_structVariant (n v : String) (fs : List (String × Data)) :
    toValue (.structVariant n v fs) =
      match toFields fs [] with | .ok m => .ok (.map [(.str v.toList, .map m)]) | .error e => .error e := rfl
theorem toValues_cons (d : Data) (ds : List Data) : toValues (d :: ds) =
    match toValue d with
    | .error e => .error e
    | .ok v => match toValues ds with | .error e => .error e | .ok vs => .ok (v :: vs) := rfl
theorem toEntries_cons (k v : Data) (rest : List (Data × Data)) (acc : MapV) :
    toEntries ((k, v) :: rest) acc =
      match keyOf k with
      | .error e => .error e
      | .ok key => match toValue v with
        | .error e => .error e
        | .ok x => toEntries rest (MapV.insert acc key x) := rfl
theorem toFields_cons (f : String) (v : Data) (rest : List (String × Data)) (acc : MapV) :
    toFields ((f, v) :: rest) acc =
      match toValue v with
      | .error e => .error e
      | .ok x => toFields rest (MapV.insert acc (.str f.toList) x) := rfl
theorem toJson_list (xs : List Value) : toJson (.list xs) = (toJsons xs).map .arr := rfl
theorem toJson_map (m : MapV) : toJson (.map m) = (toJsonEntries m []).map .obj := rfl
theorem toJson_dbl (b : UInt64) :
    toJson (.dbl b) = .ok (if F64.isFinite b then .float b else .null) := rfl
theorem toJson_dur (ns : Int) :
    toJson (.dur ns) = if inI64 ns then .ok (.int ns) else .error .durationOverflow := rfl
theorem toJsons_cons (v : Value) (vs : List Value) : toJsons (v :: vs) =
    match toJson v with
    | .error e => .error e
    | .ok j => match toJsons vs with | .error e => .error e | .ok js => .ok (j :: js) := rfl
theorem toJsonEntries_cons (k : Key) (v : Value) (rest : List (Key × Value)) (acc : List (Str × Json)) :
    toJsonEntries ((k, v) :: rest) acc =
      match toJson v with
      | .error e => .error e
      | .ok j => toJsonEntries rest (objInsert acc k.toText j) := rfl
theorem fromJson_int (i : Int) : fromJson (.int i) = if i < 0 then .int i else .uint i := rfl
theorem serdeJsons_cons (d : Data) (ds : List Data) : serdeJsons (d :: ds) =
    match serdeJson d, serdeJsons ds with | some j, some js => some (j :: js) | _, _ => none := rfl
theorem serdeJsonEntries_cons (k v : Data) (rest : List (Data × Data)) (acc : List (Str × Json)) :
    serdeJsonEntries ((k, v) :: rest) acc =
      match jsonKeyOf k, serdeJson v with
      | some key, some j => serdeJsonEntries rest (objInsert acc key j)
      | _, _ => none := rfl
theorem serdeJsonFields_cons (f : String) (v : Data) (rest : List (String × Data))
    (acc : List (Str × Json)) : serdeJsonFields ((f, v) :: rest) acc =
      match serdeJson v with
      | some j => serdeJsonFields rest (objInsert acc f.toList j)
      | none => none := rfl

theorem objInsert_eq_alist : objInsert = AList.insert := by
  funext l k v
  induction l with
  | nil => rfl
  | cons p rest ih => simp only [objInsert, AList.insert, ih]

theorem objInsert_nodup {l : List (Str × Json)} (k : Str) (v : Json)
    (h : (l.map (·.1)).Nodup) : ((objInsert l k v).map (·.1)).Nodup := by
  rw [objInsert_eq_alist]
  exact AList.nodup_keys_insert l k v h

/-- the exported-object accumulator `jacc` mirrors the value-map accumulator `acc`: same length,
string keys with the same text, values exported entry by entry -/
def Rel : MapV → List (Str × Json) → Prop
  | [], [] => True
  | (k, v) :: r, (s, j) :: jr => k = .str s ∧ toJson v = .ok j ∧ Rel r jr
  | _, _ => False

theorem Rel.insert {acc : MapV} {jacc : List (Str × Json)} (h : Rel acc jacc) (s : Str) {x : Value}
    {j : Json} (hx : toJson x = .ok j) : Rel (MapV.insert acc (.str s) x) (objInsert jacc s j) := by
  fun_induction Rel acc jacc with
  | case1 => exact ⟨rfl, hx, trivial⟩
  | case2 k v r s' j' jr ih =>
    obtain ⟨hk, hv, hr⟩ := h
    subst hk
    by_cases e : s' = s
    · subst e
      simp [MapV.insert, objInsert, Rel, hx, hr]
    · have e' : ¬ (Key.str s' = Key.str s) := by intro q; injection q with q; exact e q
      simp only [MapV.insert, objInsert, e, e', if_false, Rel, hv, true_and]
      exact ih hr
  | case3 => exact h.elim

theorem Rel.exports {acc : MapV} {jacc : List (Str × Json)} (h : Rel acc jacc)
    (pre : List (Str × Json)) (hn : ((pre ++ jacc).map (·.1)).Nodup) :
    toJsonEntries acc pre = .ok (pre ++ jacc) := by
  fun_induction Rel acc jacc generalizing pre with
  | case1 => simp [toJsonEntries]
  | case2 k v r s j jr ih =>
    obtain ⟨hk, hv, hr⟩ := h
    subst hk
    rw [toJsonEntries, hv]
    simp only [Key.toText]
    have hfresh : s ∉ pre.map (·.1) := by
      intro hm
      simp only [List.map_append, List.map_cons, List.nodup_append] at hn
      exact hn.2.2 s hm s (by simp) rfl
    rw [objInsert_eq_alist, AList.insert_of_not_mem pre s j hfresh]
    have := ih hr (pre ++ [(s, j)]) (by simpa using hn)
    simpa using this
  | case3 => exact h.elim

theorem Rel.toJson_map {m : MapV} {jm : List (Str × Json)} (h : Rel m jm)
    (hn : (jm.map (·.1)).Nodup) : toJson (.map m) = .ok (.obj jm) := by
  rw [Lemmas.toJson_map, h.exports [] (by simpa using hn)]; rfl

theorem Rel.keys {m : MapV} {jm : List (Str × Json)} (h : Rel m jm) :
    m.map (·.1) = jm.map (fun p => Key.str p.1) := by
  fun_induction Rel m jm with
  | case1 => rfl
  | case2 k v r s j jr ih => simp [h.1, ih h.2.2]
  | case3 => exact h.elim

theorem Rel.length {m : MapV} {jm : List (Str × Json)} (h : Rel m jm) : m.length = jm.length := by
  have := congrArg List.length h.keys
  simpa using this

theorem Rel.nodup {m : MapV} {jm : List (Str × Json)} (h : Rel m jm)
    (hn : (m.map (·.1)).Nodup) : (jm.map (·.1)).Nodup := by
  rw [h.keys] at hn
  have : jm.map (fun p => Key.str p.1) = (jm.map (·.1)).map Key.str := by simp
  rw [this] at hn
  exact List.Pairwise.of_map Key.str (fun a b hne e => hne (congrArg Key.str e)) hn

theorem fromJsonFields_eq_foldl (jm : List (Str × Json)) (acc : MapV) :
    fromJsonFields jm acc =
      (jm.map (fun p => (Key.str p.1, fromJson p.2))).foldl (fun m kv => MapV.insert m kv.1 kv.2) acc := by
  induction jm generalizing acc with
  | nil => rfl
  | cons p rest ih => exact ih _

theorem fromJsonFields_fresh (jm : List (Str × Json)) (acc : MapV)
    (hn : (acc.map (·.1) ++ jm.map (fun p => Key.str p.1)).Nodup) :
    fromJsonFields jm acc = acc ++ jm.map (fun p => (Key.str p.1, fromJson p.2)) := by
  rw [fromJsonFields_eq_foldl, MapV.insert_eq_alist]
  exact AList.foldl_insert_of_nodup _ acc (by rw [List.map_map]; exact hn)

end Cel.Serde.Lemmas
