import CelModel.Lemmas.DurLemmas
/-!
# `Dur.parse` reads back what `Dur.formatMag` prints: the printed text range by range, term by term

The results are `parse_neg_formatMag` and `parse_pos_formatMag`.
-/
namespace Cel.Dur
open Cel.Lemmas

theorem takeUnit_ns (r : Str) : takeUnit ('n' :: 's' :: r) = some (1, r) := rfl
theorem takeUnit_micro (r : Str) : takeUnit ('µ' :: 's' :: r) = some (1000, r) := rfl
theorem takeUnit_ms (r : Str) : takeUnit ('m' :: 's' :: r) = some (1000000, r) := rfl
theorem takeUnit_s (r : Str) : takeUnit ('s' :: r) = some (1000000000, r) := rfl
theorem takeUnit_h (r : Str) : takeUnit ('h' :: r) = some (3600000000000, r) := rfl
theorem takeUnit_m (c : Char) (cs : Str) (h : c ≠ 's') :
    takeUnit ('m' :: c :: cs) = some (60000000000, c :: cs) := by
  simp [takeUnit, h]

theorem takeTerm_natToDec (w : Nat) (r2 : Str) {unit : Nat} {rest : Str}
    (hu : takeUnit r2 = some (unit, rest)) :
    takeTerm (natToDec w ++ r2) = some (w * unit, rest) := by
  rw [takeTerm_int (natToDec w) r2 (DecText.natToDec_isDigit w) (DecText.natToDec_ne_nil w) hu,
    digitsToNat_natToDec]

theorem takeTerm_num (w prec v : Nat) (r2 : Str) {unit : Nat} {rest : Str} (hp : prec ≤ 18)
    (hunit : unit = 10 ^ prec) (hu : takeUnit r2 = some (unit, rest)) :
    takeTerm (natToDec w ++ fracStr prec v ++ r2) = some (w * unit + v % 10 ^ prec, rest) := by
  obtain ⟨ds, hds, hl, -, hv, hs⟩ := fracStr_spec prec v
  rw [hs]
  split
  · next h =>
    rw [h, digitsToNat_nil, Nat.zero_mul, Nat.zero_div] at hv
    rw [List.append_nil, takeTerm_natToDec w r2 hu, ← hv, Nat.add_zero]
  · next h =>
    have ht : ds.take 18 = ds := List.take_of_length_le (by omega)
    rw [List.append_assoc, List.cons_append,
      takeTerm_frac (natToDec w) ds r2 (DecText.natToDec_isDigit w) hds
        (Or.inl (DecText.natToDec_ne_nil w)) hu,
      ht, digitsToNat_natToDec, hunit, hv]

theorem formatMag_zero : formatMag 0 = natToDec 0 ++ ['s'] := by
  decide

theorem formatMag_ns (u : Nat) (h0 : u ≠ 0) (h : u < 1000) :
    formatMag u = natToDec u ++ ['n', 's'] := by
  have h1 : u < 1000000000 := by omega
  simp [formatMag, h0, h, h1]

theorem formatMag_micro (u : Nat) (h1 : 1000 ≤ u) (h2 : u < 1000000) :
    formatMag u = natToDec (u / 1000) ++ fracStr 3 u ++ ['µ', 's'] := by
  have h0 : u ≠ 0 := by omega
  have h3 : u < 1000000000 := by omega
  have h4 : ¬ u < 1000 := by omega
  simp [formatMag, h0, h2, h3, h4, fmtFrac_eq]

theorem formatMag_ms (u : Nat) (h1 : 1000000 ≤ u) (h2 : u < 1000000000) :
    formatMag u = natToDec (u / 1000000) ++ fracStr 6 u ++ ['m', 's'] := by
  have h0 : u ≠ 0 := by omega
  have h3 : ¬ u < 1000000 := by omega
  have h4 : ¬ u < 1000 := by omega
  simp [formatMag, h0, h2, h3, h4, fmtFrac_eq]

/-- the seconds term `S[.F]s` -/
def secStr (u : Nat) : Str := natToDec (u / 1000000000 % 60) ++ fracStr 9 u ++ ['s']

theorem formatMag_s (u : Nat) (h1 : 1000000000 ≤ u) :
    formatMag u =
      if u / 1000000000 / 60 = 0 then secStr u
      else if u / 1000000000 / 60 / 60 = 0 then
        natToDec (u / 1000000000 / 60 % 60) ++ ['m'] ++ secStr u
      else natToDec (u / 1000000000 / 60 / 60) ++ ['h'] ++
        (natToDec (u / 1000000000 / 60 % 60) ++ ['m'] ++ secStr u) := by
  have h0 : ¬ u < 1000000000 := by omega
  simp [formatMag, h0, fmtFrac_eq, secStr]

theorem secStr_cons (u : Nat) : ∃ c cs, secStr u = c :: cs ∧ isDigit c = true := by
  obtain ⟨c, cs, h, hc⟩ := natToDec_cons (u / 1000000000 % 60)
  exact ⟨c, cs ++ (fracStr 9 u ++ ['s']), by simp [secStr, h], hc⟩

theorem secStr_ne_nil (u : Nat) : secStr u ≠ [] := by
  obtain ⟨c, cs, h, _⟩ := secStr_cons u
  rw [h]; simp

theorem takeTerm_secStr (u : Nat) :
    takeTerm (secStr u) = some (u / 1000000000 % 60 * 1000000000 + u % 1000000000, []) :=
  takeTerm_num (u / 1000000000 % 60) 9 u ['s'] (by decide) (by decide)
    (takeUnit_s [])

theorem takeTerm_min {m : Nat} (u : Nat) :
    takeTerm (natToDec m ++ ['m'] ++ secStr u) = some (m * 60000000000, secStr u) := by
  obtain ⟨c, cs, h, hc⟩ := secStr_cons u
  rw [List.append_assoc, List.singleton_append, h]
  exact takeTerm_natToDec m ('m' :: c :: cs) (takeUnit_m c cs (DecText.ne_of_isDigit hc rfl))

theorem takeTerm_hour {hh : Nat} {r : Str} :
    takeTerm (natToDec hh ++ ['h'] ++ r) = some (hh * 3600000000000, r) := by
  rw [List.append_assoc, List.singleton_append]
  exact takeTerm_natToDec hh ('h' :: r) (takeUnit_h r)

theorem parseTerms_last {fuel : Nat} {s : Str} (acc v : Nat) (h : takeTerm s = some (v, [])) :
    parseTerms (fuel + 1) s acc = some (acc + v) := by
  simp [parseTerms, h]

theorem parseTerms_more {fuel : Nat} {s : Str} (acc v : Nat) {rest : Str}
    (h : takeTerm s = some (v, rest)) (hr : rest ≠ []) :
    parseTerms (fuel + 1) s acc = parseTerms fuel rest (acc + v) := by
  have : rest.isEmpty = false := by cases rest <;> simp_all
  simp [parseTerms, h, this]

theorem parseTerms_formatMag (u fuel : Nat) : parseTerms (fuel + 3) (formatMag u) 0 = some u := by
  by_cases h9 : u < 1000000000
  · by_cases h0 : u = 0
    · subst h0
      rw [formatMag_zero, parseTerms_last 0 (0 * 1000000000)
        (takeTerm_natToDec 0 ['s'] (takeUnit_s []))]
    · by_cases h3 : u < 1000
      · rw [formatMag_ns u h0 h3, parseTerms_last 0 (u * 1)
          (takeTerm_natToDec u ['n', 's'] (takeUnit_ns []))]
        simp
      · by_cases h6 : u < 1000000
        · rw [formatMag_micro u (by omega) h6, parseTerms_last 0 _
            (takeTerm_num (u / 1000) 3 u ['µ', 's'] (by decide) (by decide)
              (takeUnit_micro []))]
          congr 1; omega
        · rw [formatMag_ms u (by omega) h9, parseTerms_last 0 _
            (takeTerm_num (u / 1000000) 6 u ['m', 's'] (by decide) (by decide)
              (takeUnit_ms []))]
          congr 1; omega
  · rw [formatMag_s u (by omega)]
    split
    · next hm =>
      rw [parseTerms_last 0 _ (takeTerm_secStr u)]
      congr 1; omega
    · split
      · next hm hh =>
        rw [parseTerms_more 0 _ (takeTerm_min u) (secStr_ne_nil u),
          parseTerms_last _ _ (takeTerm_secStr u)]
        congr 1; omega
      · next hm hh =>
        have hne : natToDec (u / 1000000000 / 60 % 60) ++ ['m'] ++ secStr u ≠ [] := by
          intro h
          have := congrArg List.length h
          simp at this
        rw [parseTerms_more 0 _ takeTerm_hour hne,
          parseTerms_more _ _ (takeTerm_min u) (secStr_ne_nil u),
          parseTerms_last _ _ (takeTerm_secStr u)]
        congr 1; omega

theorem formatMag_shape (u : Nat) : ∃ w r, formatMag u = natToDec w ++ r ∧ r ≠ [] := by
  by_cases h9 : u < 1000000000
  · by_cases h0 : u = 0
    · subst h0
      exact ⟨0, ['s'], formatMag_zero, by simp⟩
    · by_cases h3 : u < 1000
      · exact ⟨_, _, formatMag_ns u h0 h3, by simp⟩
      · by_cases h6 : u < 1000000
        · exact ⟨_, _, by rw [formatMag_micro u (by omega) h6, List.append_assoc], by simp⟩
        · exact ⟨_, _, by rw [formatMag_ms u (by omega) h9, List.append_assoc], by simp⟩
  · rw [formatMag_s u (by omega)]
    split
    · exact ⟨_, _, by rw [secStr, List.append_assoc], by simp⟩
    · split
      · exact ⟨_, _, by rw [List.append_assoc], by simp⟩
      · exact ⟨_, _, by rw [List.append_assoc], by simp⟩

theorem formatMag_cons (u : Nat) : ∃ c cs, formatMag u = c :: cs ∧ isDigit c = true ∧ cs ≠ [] := by
  obtain ⟨w, r, h, hr⟩ := formatMag_shape u
  obtain ⟨c, cs, hw, hc⟩ := natToDec_cons w
  refine ⟨c, cs ++ r, by rw [h, hw]; rfl, hc, by simp [hr]⟩

/-- the optional sign (the outer `match` of `parse`) -/
def signPart (s : Str) : Bool × Str :=
  match s with
  | '-' :: r => (true, r)
  | r => (false, r)

theorem signPart_minus (r : Str) : signPart ('-' :: r) = (true, r) := rfl

theorem signPart_other (c : Char) (cs : Str) (h : c ≠ '-') : signPart (c :: cs) = (false, c :: cs) := by
  unfold signPart
  split
  · next r heq => cases heq; exact absurd rfl h
  · rfl

theorem signPart_nil : signPart [] = (false, []) := rfl

theorem parse_def (s : Str) :
    parse s =
      (if (signPart s).2 == ['0'] then some 0 else
        match parseTerms ((signPart s).2.length + 1) (signPart s).2 0 with
        | none => none
        | some mag =>
          let v : Int := if (signPart s).1 then -(mag : Int) else mag
          if inI64 v then some v else none) := rfl

theorem parseTerms_formatMag_fuel (u : Nat) :
    (formatMag u == ['0']) = false ∧
      parseTerms ((formatMag u).length + 1) (formatMag u) 0 = some u := by
  obtain ⟨c, cs, h, _, hcs⟩ := formatMag_cons u
  constructor
  · rw [h]; cases cs <;> simp_all
  · have hl : (formatMag u).length + 1 = ((formatMag u).length - 2) + 3 := by
      rw [h]; cases cs <;> simp_all
    rw [hl]; exact parseTerms_formatMag u _

theorem parse_neg_formatMag (u : Nat) (h : inI64 (-(u : Int)) = true) :
    parse ('-' :: formatMag u) = some (-(u : Int)) := by
  obtain ⟨h1, h2⟩ := parseTerms_formatMag_fuel u
  rw [parse_def, signPart_minus]
  simp [h1, h2, h]

theorem parse_pos_formatMag (u : Nat) (h : inI64 (u : Int) = true) :
    parse (formatMag u) = some (u : Int) := by
  obtain ⟨h1, h2⟩ := parseTerms_formatMag_fuel u
  obtain ⟨c, cs, hc, hd, _⟩ := formatMag_cons u
  have hs : signPart (formatMag u) = (false, formatMag u) := by
    rw [hc]
    exact signPart_other c cs (DecText.ne_of_isDigit hd rfl)
  rw [parse_def, hs]
  simp [h1, h2, h]

/-! ## the two splits lose no text: for the grammar of accepted texts (C15) -/

theorem fracPart_spec (r : Str) :
    ∃ dot : Bool, r = (if dot then ['.'] else []) ++ (fracPart r).1 ++ (fracPart r).2 ∧
      (∀ c ∈ (fracPart r).1, isDigit c = true) ∧ (dot = false → (fracPart r).1 = []) := by
  fun_cases fracPart r
  · next r' =>
    refine ⟨true, ?_, (takeDigits_spec r').2.1, by simp⟩
    have := (takeDigits_spec r').1
    simp only [if_true, List.cons_append, List.nil_append]
    rw [← this]
  · exact ⟨false, by simp, by simp, fun _ => rfl⟩

theorem signPart_spec (s : Str) :
    s = (if (signPart s).1 then ['-'] else []) ++ (signPart s).2 := by
  fun_cases signPart s <;> rfl

end Cel.Dur
