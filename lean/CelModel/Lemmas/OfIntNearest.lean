import CelModel.Lemmas.F64Nearest
import CelModel.Lemmas.F64Lemmas
/-!
# `F64.ofInt`: every integer of the 64-bit ranges has an owner among the doubles

so `roundRatPos_of_interval` and `interval_nearest` apply; up to `2^53` the integer is itself a
double, hence its own nearest one.  `int_owner` is about naturals; `ofInt_nearest` (for C13b) and
`double_of_int_exact_small` are its signed forms.
-/
namespace Cel.F64

/-- a double owns itself -/
theorem InInterval.self {m : Nat} {e : Int} {num den : Nat} (hm : 0 < m) (hden : 0 < den)
    (h : m * unit4 e * den = num * 2 ^ 1074) : InInterval m e num den := by
  have hW : 0 < unit4 e * den := Nat.mul_pos (Nat.two_pow_pos _) hden
  have hlo : lowQ m e * (unit4 e * den) < 4 * m * (unit4 e * den) :=
    Nat.mul_lt_mul_of_pos_right (by have := lowQ_le m e; omega) hW
  have hhi : 4 * m * (unit4 e * den) < highQ m * (unit4 e * den) :=
    Nat.mul_lt_mul_of_pos_right (by unfold highQ; omega) hW
  unfold InInterval
  rw [two_pow_1076]
  generalize 2 ^ 1074 = P at *
  have hX : num * (4 * P) = 4 * m * (unit4 e * den) := by
    rw [Nat.mul_left_comm, ← h, Nat.mul_assoc m, Nat.mul_assoc 4]
  rw [hX, Nat.mul_assoc (lowQ m e), Nat.mul_assoc (highQ m)]
  split
  · exact ⟨Nat.le_of_lt hlo, Nat.le_of_lt hhi⟩
  · exact ⟨hlo, hhi⟩

theorem InInterval.of_int {m l n : Nat}
    (h : if m % 2 = 0 then lowQ m l * 2 ^ l ≤ 4 * n ∧ 4 * n ≤ highQ m * 2 ^ l
         else lowQ m l * 2 ^ l < 4 * n ∧ 4 * n < highQ m * 2 ^ l) : InInterval m l n 1 := by
  have hu := unit4_natCast l
  unfold InInterval
  rw [two_pow_1076]
  have hP := Nat.two_pow_pos 1074
  generalize 2 ^ 1074 = P at *
  rw [hu, Nat.mul_one, Nat.mul_one, Nat.mul_left_comm n 4, ← Nat.mul_assoc, ← Nat.mul_assoc,
    ← Nat.mul_assoc]
  by_cases hm : m % 2 = 0
  · rw [if_pos hm] at h ⊢
    exact ⟨Nat.mul_le_mul_right _ h.1, Nat.mul_le_mul_right _ h.2⟩
  · rw [if_neg hm] at h ⊢
    exact ⟨Nat.mul_lt_mul_of_pos_right h.1 hP, Nat.mul_lt_mul_of_pos_right h.2 hP⟩

theorem ValidFin.of_normal {m l : Nat} (h1 : 2 ^ 52 ≤ m) (h2 : m < 2 ^ 53) (hl : l ≤ 12) :
    ValidFin m (l : Int) :=
  ⟨by omega, h2, by omega, by omega, Or.inr h1⟩

/-- the owner: `n` itself scaled into `[2^52, 2^53)` when it has at most 53 bits, otherwise its
round-half-even to 53 bits (renormalised if that reaches `2^53`) -/
theorem int_owner (n : Nat) (hn : 0 < n) (h64 : n < 2 ^ 64) :
    ∃ (m : Nat) (e : Int), ValidFin m e ∧ InInterval m e n 1 := by
  have hn0 : n ≠ 0 := by omega
  obtain ⟨hL1, hL2⟩ := (Nat.log2_eq_iff hn0).1 rfl
  have hL64 : Nat.log2 n < 64 := (Nat.log2_lt hn0).2 h64
  generalize Nat.log2 n = L at *
  by_cases hsmall : L ≤ 52
  · -- at most 53 bits: `n · 2^(52-L)` with exponent `L - 52` is `n` itself
    obtain ⟨k, hk⟩ : ∃ k, L + k = 52 := ⟨52 - L, by omega⟩
    obtain ⟨hm1, hm2⟩ := mul_two_pow_bounds k hL1 hL2
    rw [hk] at hm1 hm2
    refine ⟨n * 2 ^ k, -(k : Int), ⟨by omega, hm2, by omega, by omega, Or.inr hm1⟩,
      InInterval.self (by omega) Nat.one_pos ?_⟩
    unfold unit4
    rw [Nat.mul_one, Nat.mul_assoc, ← Nat.pow_add]
    congr 2; omega
  · obtain ⟨l, rfl⟩ : ∃ l, L = 52 + l := ⟨L - 52, by omega⟩
    obtain ⟨hq1, hq2⟩ := div_two_pow_bounds hL1 hL2
    have hs : 2 ≤ 2 ^ l := Nat.one_lt_two_pow (by omega)
    have hdm : 2 ^ l * (n / 2 ^ l) + n % 2 ^ l = n := Nat.div_add_mod n (2 ^ l)
    have hr : n % 2 ^ l < 2 ^ l := Nat.mod_lt _ (by omega)
    have hl : l ≤ 11 := by omega
    clear hL1 hL2 hL64 h64 hsmall hn0
    generalize hq : n / 2 ^ l = q at *
    generalize n % 2 ^ l = r at *
    have key : ∀ c, (4 * q + c) * 2 ^ l = 4 * (2 ^ l * q) + c * 2 ^ l := by
      intro c; rw [Nat.add_mul, Nat.mul_assoc, Nat.mul_comm q]
    by_cases hup : 2 * r > 2 ^ l ∨ (2 * r = 2 ^ l ∧ q % 2 = 1)
    · by_cases hK : q + 1 = 2 ^ 53
      · -- rounding up reaches the next binade
        refine ⟨2 ^ 52, ((l + 1 : Nat) : Int),
          ValidFin.of_normal (Nat.le_refl _) (by decide) (by omega), InInterval.of_int ?_⟩
        have hq' : q = 2 ^ 53 - 1 := by omega
        have hlow := lowQ_le (2 ^ 52) ((l + 1 : Nat) : Int)
        rw [if_pos (by decide), Nat.pow_succ (n := 2) (m := l)]
        unfold highQ
        subst hq'
        generalize lowQ (2 ^ 52) ((l + 1 : Nat) : Int) = lq at *
        have h1 : lq * (2 ^ l * 2) ≤ (4 * 2 ^ 52 - 1) * (2 ^ l * 2) := Nat.mul_le_mul_right _ hlow
        generalize 2 ^ l = s at *
        omega
      · refine ⟨q + 1, (l : Int), ValidFin.of_normal (by omega) (by omega) (by omega),
          InInterval.of_int ?_⟩
        rw [lowQ_of_ne _ _ (by omega)]
        unfold highQ
        have e1 : 4 * (q + 1) - 2 = 4 * q + 2 := by omega
        have e2 : 4 * (q + 1) + 2 = 4 * q + 6 := by omega
        rw [e1, e2, key, key]
        generalize 2 ^ l * q = A at *
        generalize 2 ^ l = s at *
        split <;> omega
    · refine ⟨q, (l : Int), ValidFin.of_normal hq1 hq2 (by omega), InInterval.of_int ?_⟩
      have hlow := lowQ_le q (l : Int)
      have h1 : lowQ q (l : Int) * 2 ^ l ≤ (4 * q - 1) * 2 ^ l := Nat.mul_le_mul_right _ hlow
      have e1 : 4 * q - 1 + 1 = 4 * q + 0 := by omega
      have h2 : (4 * q - 1) * 2 ^ l + 2 ^ l = 4 * (2 ^ l * q) + 0 * 2 ^ l := by
        rw [← Nat.succ_mul, Nat.succ_eq_add_one, e1, key]
      unfold highQ
      rw [key]
      generalize lowQ q (l : Int) * 2 ^ l = lq at *
      generalize (4 * q - 1) * 2 ^ l = lq' at *
      generalize 2 ^ l * q = A at *
      generalize 2 ^ l = s at *
      split <;> omega

theorem natAbs_sgn_sub (neg : Bool) (a b : Int) :
    (sgn neg a - sgn neg b).natAbs = (a - b).natAbs := by
  cases neg <;> simp only [sgn, if_true, if_false, Bool.false_eq_true] <;> omega

theorem natAbs_sgn_sub_not (neg : Bool) (a b : Int) :
    (sgn (!neg) a - sgn neg b).natAbs = (a + b).natAbs := by
  cases neg <;> simp only [sgn, Bool.not_true, Bool.not_false, if_true, if_false,
    Bool.false_eq_true] <;> omega

/-- a number of the other sign is at least as far away as zero; `ev` is what a tie implies and is
only passed through -/
theorem nearest_signed {neg neg' : Bool} {P Q X : Nat} {ev : Prop}
    (h : ∀ Z, Z = X ∨ Z = 0 → ((P : Int) - Q).natAbs ≤ ((Z : Int) - Q).natAbs ∧
      (((P : Int) - Q).natAbs = ((Z : Int) - Q).natAbs → Z ≠ P → ev)) :
    (sgn neg (P : Int) - sgn neg (Q : Int)).natAbs ≤
        (sgn neg' (X : Int) - sgn neg (Q : Int)).natAbs ∧
      ((sgn neg (P : Int) - sgn neg (Q : Int)).natAbs =
          (sgn neg' (X : Int) - sgn neg (Q : Int)).natAbs →
        sgn neg' (X : Int) ≠ sgn neg (P : Int) → ev) := by
  obtain ⟨hX1, hX2⟩ := h X (Or.inl rfl)
  obtain ⟨h01, h02⟩ := h 0 (Or.inr rfl)
  rw [natAbs_sgn_sub]
  by_cases hs : neg' = neg
  · subst hs
    rw [natAbs_sgn_sub]
    exact ⟨hX1, fun ht hne => hX2 ht (fun hXP => hne (by rw [hXP]))⟩
  · obtain rfl := Bool.eq_not_of_ne hs
    rw [natAbs_sgn_sub_not]
    refine ⟨by omega, fun ht hne => h02 (by omega) (fun hP => ?_)⟩
    -- `P = 0` and the tie give `X = 0`, and both signed zeros are `0`
    subst hP
    obtain rfl : X = 0 := by omega
    exact hne (by cases neg <;> rfl)

theorem int_eq_sgn (i : Int) : i = sgn (decide (i < 0)) (i.natAbs : Int) := by
  unfold sgn
  by_cases h : i < 0
  · simp only [h, decide_true, if_true]; omega
  · simp only [h, decide_false, if_false, Bool.false_eq_true]; omega

theorem unit4_cast (m : Nat) (e : Int) :
    (m : Int) * 2 ^ (e + 1074).toNat = ((m * unit4 e : Nat) : Int) := by
  simp only [unit4, Int.natCast_mul, Int.natCast_pow, Int.cast_ofNat_Int]

end Cel.F64

namespace Cel.Lemmas.OfIntNearest
open Cel.F64

theorem twoScale_cast : twoScale = ((2 ^ scale : Nat) : Int) := by
  unfold twoScale; rw [Int.natCast_pow]; rfl

theorem int_key (i : Int) :
    i * twoScale = sgn (decide (i < 0)) ((i.natAbs * 2 ^ 1074 : Nat) : Int) := by
  rw [twoScale_cast]
  unfold scale
  rw [Int.natCast_mul, sgn_mul, ← int_eq_sgn]

theorem ofInt_owner (i : Int) (hz : i ≠ 0) (h : i.natAbs < 2 ^ 64) :
    ∃ (m : Nat) (e : Int), ValidFin m e ∧ InInterval m e i.natAbs 1 ∧
      decode (ofInt i) = .fin (decide (i < 0)) m e := by
  obtain ⟨m, e, hv, hin⟩ := int_owner i.natAbs (by omega) h
  obtain ⟨hdec, hlt⟩ := decode_encodePos m e hv
  refine ⟨m, e, hv, hin, ?_⟩
  unfold ofInt
  rw [ofRat_of_round _ (roundRatPos_of_interval m e hv _ _ Nat.one_pos hin)]
  exact decode_ofNat_sign hlt hdec

theorem ofInt_nearest (i : Int) (hz : i ≠ 0) (h : i.natAbs < 2 ^ 64) :
    ∃ (M : Nat) (e : Int), decode (ofInt i) = .fin (decide (i < 0)) M e ∧ 0 < M ∧
      ∀ (neg' : Bool) (m' : Nat) (e' : Int), m' < 2 ^ 53 →
        (sgn (decide (i < 0)) ((M : Int) * 2 ^ (e + 1074).toNat) - i * twoScale).natAbs ≤
          (sgn neg' ((m' : Int) * 2 ^ (e' + 1074).toNat) - i * twoScale).natAbs ∧
        ((sgn (decide (i < 0)) ((M : Int) * 2 ^ (e + 1074).toNat) - i * twoScale).natAbs =
          (sgn neg' ((m' : Int) * 2 ^ (e' + 1074).toNat) - i * twoScale).natAbs →
          sgn neg' ((m' : Int) * 2 ^ (e' + 1074).toNat) ≠
            sgn (decide (i < 0)) ((M : Int) * 2 ^ (e + 1074).toNat) →
          M % 2 = 0) := by
  obtain ⟨M, e, hv, hin, hdec⟩ := ofInt_owner i hz h
  refine ⟨M, e, hdec, hv.1, ?_⟩
  intro neg' m' e' hm'
  rw [int_key, unit4_cast, unit4_cast]
  refine nearest_signed (fun Z hZ => ?_)
  rcases hZ with rfl | rfl
  · have := interval_nearest hv hin m' e' hm'
    simp only [Nat.mul_one] at this
    exact this
  · have := interval_nearest hv hin 0 0 (by decide)
    simp only [Nat.mul_one, Nat.zero_mul] at this
    exact this

/-- `|i| ≤ 2^53` is itself a double, so its owner is at distance 0 -/
theorem ofInt_exact (i : Int) (hz : i ≠ 0) (h : i.natAbs ≤ 2 ^ 53) :
    ∃ (m : Nat) (e : Int), decode (ofInt i) = .fin (decide (i < 0)) m e ∧
      m * unit4 e = i.natAbs * 2 ^ 1074 := by
  obtain ⟨m, e, hv, hin, hdec⟩ := ofInt_owner i hz (by omega)
  refine ⟨m, e, hdec, ?_⟩
  obtain ⟨m', e', hm', hx⟩ : ∃ (m' : Nat) (e' : Int), m' < 2 ^ 53 ∧
      m' * unit4 e' = i.natAbs * 2 ^ 1074 := by
    have h0 := unit4_natCast 0
    have h1 := unit4_natCast 1
    generalize 2 ^ 1074 = P at *
    by_cases h53 : i.natAbs = 2 ^ 53
    · exact ⟨2 ^ 52, ((1 : Nat) : Int), by decide, by rw [h53, h1]; omega⟩
    · exact ⟨i.natAbs, ((0 : Nat) : Int), by omega, by rw [h0, Nat.pow_zero, Nat.one_mul]⟩
  have := (interval_nearest hv hin m' e' hm').1
  simp only [Nat.mul_one, hx] at this
  omega

end Cel.Lemmas.OfIntNearest

namespace Cel.Lemmas.OfInt
open Cel.F64 Cel.Lemmas.OfIntNearest

/-- the result that `Props/C13` restates under the same short name (DESIGN 0.2, row C13); its
namespace sets it apart from the steps above, which are `Cel.Lemmas.OfIntNearest` -/
theorem double_of_int_exact_small (i : Int) (h : i.natAbs ≤ 2 ^ 53) :
    F64.keyD (F64.decode (F64.ofInt i)) = some (F64.keyI i) := by
  by_cases hz : i = 0
  · subst hz
    simp [ofInt, ofRat, roundRatPos, decode, decodeNat, keyD, keyI, sgn]
  · obtain ⟨m, e, hdec, hex⟩ := ofInt_exact i hz h
    rw [hdec]
    simp only [keyD, keyI]
    rw [unit4_cast, hex, int_key]

end Cel.Lemmas.OfInt
