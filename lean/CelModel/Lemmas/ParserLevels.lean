import CelModel.Parser
/-!
# The binary-operator levels of the grammar

`CEL.g4` has five rules of the shape `level : sub (op sub)*`, which the parser model writes out as
five pairs of mutually recursive functions.  The two shapes are defined once, over the operator
table and the operand parser (`levelL`, `levelLogic`), and the five pairs are shown to be instances.
A user rewrites with an instance (`parseRel_eq` …) and goes on with the rules of the shape at the end
of the file (`levelL_of`, `loopL_stop`, `loopL_more`, `levelLogic_pair` …).  Before all that: `hd`, one
step of `balancedTree`, and what `parseTop` and `compile` accept.
-/
namespace Cel.Lemmas.ParserSteps
open Cel.Parser

-- in this namespace because its full name is used by statements elsewhere
def hd : Toks → String
  | .sym s :: _ => s
  | _ => ""

@[simp] theorem hd_nil : hd [] = "" := rfl
@[simp] theorem hd_sym (s : String) (r : Toks) : hd (.sym s :: r) = s := rfl
theorem hd_other {ts : Toks} (h : ∀ s r, ts = .sym s :: r → False) : hd ts = "" := by
  rw [hd]
  exact h

end Cel.Lemmas.ParserSteps

namespace Cel.Parser

theorem balancedTree_succ (op : String) (arr : Array Expr) (fuel lo hi : Nat) :
  balancedTree op arr (fuel + 1) lo hi =
    .call op [
      if (lo + hi + 1) / 2 == lo then arr[(lo + hi + 1) / 2]!
      else balancedTree op arr fuel lo ((lo + hi + 1) / 2 - 1),
      if (lo + hi + 1) / 2 == hi then arr[(lo + hi + 1) / 2 + 1]!
      else balancedTree op arr fuel ((lo + hi + 1) / 2 + 1) hi] := by
  rw [balancedTree]

theorem parseTop_some {ts : Toks} {e : Expr} : parseTop ts = some e →
    parseExpr (40 * (ts.length + 2)) ts = some (e, []) := by
  fun_cases parseTop ts
  · rename_i e' h1
    rintro ⟨⟩
    exact h1
  · exact nofun

theorem parseTop_of {ts : Toks} {e : Expr} (h : parseExpr (40 * (ts.length + 2)) ts = some (e, [])) :
    parseTop ts = some e := by
  rw [parseTop, h]

theorem compile_some {src : Str} {e : Expr} (h : compile src = some e) :
    ∃ ts, Lexer.lex src = (ts, 0) ∧ parseTop ts = some e := by
  unfold compile at h
  split at h
  · cases h
  · split at h
    · rename_i ts hl
      exact ⟨ts, hl, h⟩
    · cases h

end Cel.Parser

namespace Cel.Lemmas.ParserLevels
open Cel.Lexer Cel.Parser Cel.Lemmas.ParserSteps

abbrev PFun := Nat → Toks → Option (Expr × Toks)

/-- the second alternative is the side condition of the equation Lean derives for a `| _ =>` arm -/
theorem sym_cases (ts : Toks) : (∃ s r, ts = .sym s :: r) ∨ (∀ s r, ts = .sym s :: r → False) := by
  by_cases h : ∃ s r, ts = .sym s :: r
  · exact .inl h
  · exact .inr fun s r e => h ⟨s, r, e⟩

/-- `(op sub)*`, left-associative, `ops` mapping an operator token to its function name
(`parseRelRest`, `parseAddRest`, `parseMulRest`) -/
def loopL (ops : String → Option String) (sub : PFun) : Nat → Toks → Expr → Option (Expr × Toks)
  | 0, _, _ => none
  | fuel + 1, ts, l =>
    match ts with
    | .sym s :: r =>
      (match ops s with
       | some op =>
         (match sub fuel r with
          | some (rhs, r') => loopL ops sub fuel r' (.call op [l, rhs])
          | none => none)
       | none => some (l, ts))
    | _ => some (l, ts)

/-- `sub (op sub)*` (`parseRel`, `parseAdd`, `parseMul`) -/
def levelL (ops : String → Option String) (sub : PFun) : PFun
  | 0, _ => none
  | fuel + 1, ts =>
    match sub fuel ts with
    | none => none
    | some (l, r) => loopL ops sub fuel r l

/-- `(tok sub)*`, collecting the operands in reverse (`parseOrRest`, `parseAndRest`) -/
def loopLogic (tok : String) (sub : PFun) : Nat → Toks → List Expr → Option (List Expr × Toks)
  | 0, _, _ => none
  | fuel + 1, ts, acc =>
    match ts with
    | .sym s :: r =>
      if s = tok then
        (match sub fuel r with
         | some (t, r') => loopLogic tok sub fuel r' (t :: acc)
         | none => none)
      else some (acc, ts)
    | _ => some (acc, ts)

/-- `sub (tok sub)*`, the operands re-associated into a balanced tree (`parseOr`, `parseAnd`) -/
def levelLogic (tok op : String) (sub : PFun) : PFun
  | 0, _ => none
  | fuel + 1, ts =>
    match sub fuel ts with
    | none => none
    | some (t, r) =>
      (match loopLogic tok sub fuel r [t] with
       | some (terms, r') => some (logicExpr op terms.reverse, r')
       | none => none)

/-! The hypotheses of the `_unique` lemmas are the equations Lean derives for the model's functions
(`f.eq_2` a symbol at the head, `f.eq_3` the `| _ =>` arm; no fuel is `rfl`), so that an instance is
proved by naming them.  Trap: Lean numbers the equations by the arms of the `match`, so an arm added
to `parseRelRest` … `parseAndRest` renumbers `eq_3`, and the ten instances have to follow. -/

theorem loopL_unique {ops : String → Option String} {sub : PFun}
    {F : Nat → Toks → Expr → Option (Expr × Toks)} (h0 : ∀ ts l, F 0 ts l = none)
    (hsym : ∀ (l : Expr) (n : Nat) (s : String) (r : List Tok), F (n + 1) (.sym s :: r) l =
      match ops s with
      | some op =>
        (match sub n r with
         | some (rhs, r') => F n r' (.call op [l, rhs])
         | none => none)
      | none => some (l, .sym s :: r))
    (hoth : ∀ ⦃ts : Toks⦄ ⦃l : Expr⦄ ⦃n : Nat⦄, (∀ s r, ts = .sym s :: r → False) →
      F (n + 1) ts l = some (l, ts)) : F = loopL ops sub := by
  funext n
  induction n with
  | zero => funext ts l; rw [h0]; rfl
  | succ n ih =>
    funext ts l
    rcases sym_cases ts with ⟨s, r, rfl⟩ | hn
    · rw [hsym, ih]; rfl
    · rw [hoth hn, loopL]
      exact hn

theorem levelL_unique {ops : String → Option String} {sub : PFun} {F : PFun}
    {R : Nat → Toks → Expr → Option (Expr × Toks)} (hR : R = loopL ops sub) (h0 : ∀ ts, F 0 ts = none)
    (hs : ∀ n ts, F (n + 1) ts = match sub n ts with
      | none => none
      | some (l, r) => R n r l) : F = levelL ops sub := by
  subst hR
  funext n
  cases n with
  | zero => funext ts; rw [h0]; rfl
  | succ n => funext ts; rw [hs]; rfl

theorem loopLogic_unique {tok : String} {sub : PFun}
    {F : Nat → Toks → List Expr → Option (List Expr × Toks)} (h0 : ∀ ts acc, F 0 ts acc = none)
    (hsym : ∀ (acc : List Expr) (n : Nat) (r : List Tok), F (n + 1) (.sym tok :: r) acc =
      match sub n r with
      | some (t, r') => F n r' (t :: acc)
      | none => none)
    (hoth : ∀ ⦃ts : Toks⦄ ⦃acc : List Expr⦄ ⦃n : Nat⦄, (∀ r, ts = .sym tok :: r → False) →
      F (n + 1) ts acc = some (acc, ts)) : F = loopLogic tok sub := by
  funext n
  induction n with
  | zero => funext ts acc; rw [h0]; rfl
  | succ n ih =>
    funext ts acc
    rcases sym_cases ts with ⟨s, r, rfl⟩ | hn
    · by_cases hs : s = tok
      · subst hs; rw [hsym, ih, loopLogic, if_pos rfl]
      · rw [hoth fun _ h => hs (by cases h; rfl), loopLogic, if_neg hs]
    · rw [hoth (hn tok), loopLogic]
      exact hn

theorem levelLogic_unique {tok op : String} {sub : PFun} {F : PFun}
    {R : Nat → Toks → List Expr → Option (List Expr × Toks)} (hR : R = loopLogic tok sub)
    (h0 : ∀ ts, F 0 ts = none)
    (hs : ∀ n ts, F (n + 1) ts = match sub n ts with
      | none => none
      | some (t, r) =>
        (match R n r [t] with
         | some (terms, r') => some (logicExpr op terms.reverse, r')
         | none => none)) : F = levelLogic tok op sub := by
  subst hR
  funext n
  cases n with
  | zero => funext ts; rw [h0]; rfl
  | succ n => funext ts; rw [hs]; rfl

theorem parseRelRest_eq : parseRelRest = loopL relOpName parseAdd :=
  loopL_unique (fun _ _ => rfl) parseRelRest.eq_2 parseRelRest.eq_3
theorem parseAddRest_eq : parseAddRest = loopL addOpName parseMul :=
  loopL_unique (fun _ _ => rfl) parseAddRest.eq_2 parseAddRest.eq_3
theorem parseMulRest_eq : parseMulRest = loopL mulOpName parseUnary :=
  loopL_unique (fun _ _ => rfl) parseMulRest.eq_2 parseMulRest.eq_3
theorem parseOrRest_eq : parseOrRest = loopLogic "||" parseAnd :=
  loopLogic_unique (fun _ _ => rfl) parseOrRest.eq_2 parseOrRest.eq_3
theorem parseAndRest_eq : parseAndRest = loopLogic "&&" parseRel :=
  loopLogic_unique (fun _ _ => rfl) parseAndRest.eq_2 parseAndRest.eq_3

theorem parseRel_eq : parseRel = levelL relOpName parseAdd :=
  levelL_unique parseRelRest_eq (fun _ => rfl) (fun _ _ => by rw [parseRel]; rfl)
theorem parseAdd_eq : parseAdd = levelL addOpName parseMul :=
  levelL_unique parseAddRest_eq (fun _ => rfl) (fun _ _ => by rw [parseAdd]; rfl)
theorem parseMul_eq : parseMul = levelL mulOpName parseUnary :=
  levelL_unique parseMulRest_eq (fun _ => rfl) (fun _ _ => by rw [parseMul]; rfl)
theorem parseOr_eq : parseOr = levelLogic "||" "_||_" parseAnd :=
  levelLogic_unique parseOrRest_eq (fun _ => rfl) (fun _ _ => by rw [parseOr]; rfl)
theorem parseAnd_eq : parseAnd = levelLogic "&&" "_&&_" parseRel :=
  levelLogic_unique parseAndRest_eq (fun _ => rfl) (fun _ _ => by rw [parseAnd]; rfl)

theorem logicExpr_two (op : String) (a b : Expr) : logicExpr op [a, b] = .call op [a, b] := by
  simp [logicExpr, balancedTree]

/-! one step of the two shapes, for any operator table and operand parser -/

section
variable {ops : String → Option String} {tok op : String} {sub : PFun} {f : Nat}

theorem levelL_of {ts r : Toks} {l : Expr} (h : sub f ts = some (l, r)) :
    levelL ops sub (f + 1) ts = loopL ops sub f r l := by
  rw [levelL, h]

theorem loopL_stop {ts : Toks} {l : Expr} (h : ops (hd ts) = none) :
    loopL ops sub (f + 1) ts l = some (l, ts) := by
  rcases sym_cases ts with ⟨s, r, rfl⟩ | hn
  · rw [loopL, show ops s = none from h]
  · rw [loopL]
    exact hn

theorem loopL_more {s nm : String} {r r' : Toks} {l rhs : Expr} (hop : ops s = some nm)
    (h : sub f r = some (rhs, r')) :
    loopL ops sub (f + 1) (.sym s :: r) l = loopL ops sub f r' (.call nm [l, rhs]) := by
  rw [loopL, hop, h]

theorem levelL_single {ts r : Toks} {e : Expr} (h : sub (f + 1) ts = some (e, r))
    (hn : ops (hd r) = none) : levelL ops sub (f + 2) ts = some (e, r) := by
  rw [levelL_of h, loopL_stop hn]

theorem levelLogic_of {ts r : Toks} {t : Expr} (h : sub f ts = some (t, r)) :
    levelLogic tok op sub (f + 1) ts = (match loopLogic tok sub f r [t] with
      | some (terms, r') => some (logicExpr op terms.reverse, r')
      | none => none) := by
  rw [levelLogic, h]

theorem loopLogic_stop {ts : Toks} {acc : List Expr} (h : hd ts ≠ tok) :
    loopLogic tok sub (f + 1) ts acc = some (acc, ts) := by
  rcases sym_cases ts with ⟨s, r, rfl⟩ | hn
  · rw [loopLogic, if_neg (show ¬ s = tok from h)]
  · rw [loopLogic]
    exact hn

theorem loopLogic_more {r r' : Toks} {acc : List Expr} {t : Expr} (h : sub f r = some (t, r')) :
    loopLogic tok sub (f + 1) (.sym tok :: r) acc = loopLogic tok sub f r' (t :: acc) := by
  rw [loopLogic, if_pos rfl, h]

theorem levelLogic_single {ts r : Toks} {e : Expr} (h : sub (f + 1) ts = some (e, r))
    (hn : hd r ≠ tok) : levelLogic tok op sub (f + 2) ts = some (e, r) := by
  rw [levelLogic_of h, loopLogic_stop hn]; rfl

theorem levelLogic_pair {ts r r' : Toks} {a b : Expr} (ha : sub (f + 2) ts = some (a, .sym tok :: r))
    (hb : sub (f + 1) r = some (b, r')) (hn : hd r' ≠ tok) :
    levelLogic tok op sub (f + 3) ts = some (.call op [a, b], r') := by
  rw [levelLogic_of ha, loopLogic_more hb, loopLogic_stop hn]
  simp only [List.reverse_cons, List.reverse_nil, List.nil_append, List.cons_append, logicExpr_two]
end

end Cel.Lemmas.ParserLevels
