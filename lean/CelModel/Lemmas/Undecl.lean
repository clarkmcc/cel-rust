import CelModel.Lemmas.Sat
/-!
# Where "undeclared reference" errors can come from

`SatP` is `Sat` with panics tolerated, so that its rules apply to arbitrary trees,
`Expr.unspecified` included.  For `SatP · Any E` (`SatP.closed`) with `Good E` the traversal of
`Lemmas/Closed.lean` says: an error of a call node is an error of one of its operands, or a
non-`undeclared` error, or `undeclared f` for the node's own name when the function registry is
consulted.
-/
namespace Cel

def SatP (m : M β α) (Q : α → Prop) (E : ErrC → Prop) : Prop :=
  ∀ s, match m s with
    | (.ok a, _) => Q a
    | (.err e, _) => E e
    | (.panic _, _) => True

namespace SatP

theorem panic {p : String} {Q : α → Prop} {E : ErrC → Prop} :
    SatP (M.panic p : M β α) Q E := by
  intro s; trivial

theorem bind_ret {m : M β α} {f : α → M β γ} {Q : α → Prop} {R : γ → Prop} {E : ErrC → Prop}
    (hm : SatP m Q E) (hf : ∀ a, Q a → Ret m a → SatP (f a) R E) : SatP (m >>= f) R E :=
  SatW.bind_ret (W := True) hm hf

theorem weaken {m : M β α} {Q Q' : α → Prop} {E E' : ErrC → Prop}
    (h : SatP m Q E) (hq : ∀ a, Q a → Q' a) (he : ∀ e, E e → E' e) : SatP m Q' E' :=
  SatW.weaken (W := True) h hq he

theorem err_of_run {m : M β α} {Q : α → Prop} {E : ErrC → Prop} (h : SatP m Q E)
    {s s' : St β} {e : ErrC} (hr : m s = (.err e, s')) : E e := by
  have := h s
  rw [hr] at this
  exact this

end SatP

theorem SatP.closed {E : ErrC → Prop} : Closed (fun _ {_} m => SatP m Any E) E :=
  .const (fun _ _ => trivial) (fun h _ => h) (fun _ => trivial) (fun _ _ => trivial)
    (fun hm hf => SatP.bind_ret hm fun a _ => hf a)

namespace NoUndecl

theorem applyBin (op : BinOp) (a b : Value) : (applyBin op a b).isUndecl = false :=
  Outcome.plain.isUndecl (Plain.applyBin op a b)

theorem applyUn (op : UnOp) (v : Value) : (applyUn op v).isUndecl = false :=
  Outcome.plain.isUndecl (Plain.applyUn op v)

theorem member (ctx : Ctx) (v : Value) (field : Str) : (member ctx v field).isUndecl = false :=
  Outcome.plain.isUndecl (Plain.member ctx v field)

end NoUndecl

theorem getFunction_push (ctx : Ctx) (sc : Scope) (f : String) :
    (ctx.push sc).getFunction f = ctx.getFunction f := rfl

end Cel
