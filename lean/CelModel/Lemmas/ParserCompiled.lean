import CelModel.Lemmas.Closed
import CelModel.Lemmas.ParserClosed
import CelModel.Lemmas.MacrosLemmas
/-!
# Tree-level invariant of the parser

Whatever tree any of the parser functions returns contains no `Expr.unspecified` node (`Compiled` of
C02, defined in `Lemmas/Closed.lean`).  The only sources of such a node in the parser model are
`balancedTree` at fuel 0 (unreachable: `logicExpr` hands it more fuel than the width of the
interval) and an out-of-range `terms[i]!` (harmless: `default : Expr` is a literal).  `closed` is the
instance of the closure principle of `Lemmas/ParserClosed.lean`; `parseExpr_compiled` is what its
users call.
-/
namespace Cel
namespace ParserCompiled
open Parser Cel.Props.C02

theorem c_lit {v : Value} : Compiled (.lit v) = true := by rw [Compiled]
theorem c_ident {n : String} : Compiled (.ident n) = true := by rw [Compiled]
theorem cl_nil : CompiledList [] = true := by rw [CompiledList]
theorem cl_cons {a : Expr} {l : List Expr} (ha : Compiled a = true) (hl : CompiledList l = true) :
    CompiledList (a :: l) = true := by rw [CompiledList, ha, hl]; rfl
theorem cl_one {a : Expr} (ha : Compiled a = true) : CompiledList [a] = true := cl_cons ha cl_nil
theorem cl_two {a b : Expr} (ha : Compiled a = true) (hb : Compiled b = true) :
    CompiledList [a, b] = true := cl_cons ha (cl_one hb)
theorem cl_inv {a : Expr} {l : List Expr} (h : CompiledList (a :: l) = true) :
    Compiled a = true ∧ CompiledList l = true := by
  rw [CompiledList, Bool.and_eq_true] at h; exact h
theorem cl_second {a b : Expr} {l : List Expr} (h : CompiledList (a :: b :: l) = true) : Compiled b = true :=
  (cl_inv (cl_inv h).2).1
theorem c_call {f : String} {args : List Expr} (h : CompiledList args = true) :
    Compiled (.call f args) = true := by rw [Compiled]; exact h
theorem c_call1 {f : String} {a : Expr} (ha : Compiled a = true) : Compiled (.call f [a]) = true :=
  c_call (cl_one ha)
theorem c_call2 {f : String} {a b : Expr} (ha : Compiled a = true) (hb : Compiled b = true) :
    Compiled (.call f [a, b]) = true := c_call (cl_two ha hb)
theorem c_call3 {f : String} {a b c : Expr} (ha : Compiled a = true) (hb : Compiled b = true)
    (hc : Compiled c = true) : Compiled (.call f [a, b, c]) = true := c_call (cl_cons ha (cl_two hb hc))
theorem c_mcall {f : String} {t : Expr} {args : List Expr} (ht : Compiled t = true)
    (h : CompiledList args = true) : Compiled (.mcall f t args) = true := by
  rw [Compiled, ht, h]; rfl
theorem c_select {e : Expr} {f : Str} {b : Bool} (h : Compiled e = true) :
    Compiled (.select e f b) = true := by rw [Compiled]; exact h
theorem c_select_inv {e : Expr} {f : Str} {b : Bool} (h : Compiled (.select e f b) = true) :
    Compiled e = true := by rw [Compiled] at h; exact h
theorem c_list {es : List Expr} (h : CompiledList es = true) : Compiled (.list es) = true := by
  rw [Compiled]; exact h
theorem c_map {es : List (Expr × Expr)} (h : CompiledEntries es = true) :
    Compiled (.map es) = true := by rw [Compiled]; exact h
theorem c_struct {n : String} {fs : List Str} {vs : List Expr} (h : CompiledList vs = true) :
    Compiled (.struct n fs vs) = true := by rw [Compiled]; exact h
theorem c_comp {iv av : String} {r i c s res : Expr} (hr : Compiled r = true)
    (hi : Compiled i = true) (hc : Compiled c = true) (hs : Compiled s = true)
    (hres : Compiled res = true) : Compiled (.comp iv r av i c s res) = true := by
  rw [Compiled, hr, hi, hc, hs, hres]; rfl
theorem ce_nil : CompiledEntries [] = true := by rw [CompiledEntries]
theorem ce_cons {k v : Expr} {l : List (Expr × Expr)} (hk : Compiled k = true)
    (hv : Compiled v = true) (hl : CompiledEntries l = true) :
    CompiledEntries ((k, v) :: l) = true := by rw [CompiledEntries, hk, hv, hl]; rfl

theorem cl_of_mem {l : List Expr} (h : ∀ x ∈ l, Compiled x = true) : CompiledList l = true := by
  induction l with
  | nil => exact cl_nil
  | cons a as ih =>
    exact cl_cons (h a (List.mem_cons_self ..)) (ih fun x hx => h x (List.mem_cons_of_mem _ hx))

theorem cl_reverse {a : List Expr} (ha : CompiledList a = true) : CompiledList a.reverse = true :=
  cl_of_mem fun x hx => compiledList_mem ha x (List.mem_reverse.mp hx)

theorem c_getElem! {l : List Expr} (h : CompiledList l = true) (i : Nat) :
    Compiled (l.toArray[i]!) = true := by
  by_cases hi : i < l.length
  · have : l.toArray[i]! = l[i] := by simp [hi]
    rw [this]
    exact compiledList_mem h _ (List.getElem_mem hi)
  · have : l.toArray[i]! = default := by simp [hi]
    rw [this]
    rfl

theorem balancedTree_compiled {op : String} {terms : List Expr} (h : CompiledList terms = true) :
    ∀ ⦃fuel lo hi⦄, lo ≤ hi → hi - lo + 1 ≤ fuel →
      Compiled (balancedTree op terms.toArray fuel lo hi) = true := by
  intro fuel
  induction fuel with
  | zero => intro lo hi _ hf; omega
  | succ f ih =>
    intro lo hi hle hf
    rw [balancedTree_succ]
    apply c_call2
    · split
      · exact c_getElem! h _
      · rename_i hm
        have hm' : (lo + hi + 1) / 2 ≠ lo := by simpa using hm
        exact ih (by omega) (by omega)
    · split
      · exact c_getElem! h _
      · rename_i hm
        have hm' : (lo + hi + 1) / 2 ≠ hi := by simpa using hm
        exact ih (by omega) (by omega)

theorem logicExpr_compiled {op : String} {terms : List Expr} (h : CompiledList terms = true) :
    Compiled (logicExpr op terms) = true := by
  unfold logicExpr
  split
  · exact (cl_inv h).1
  · exact balancedTree_compiled h (Nat.zero_le _) (by omega)

theorem c_some_lit {v : Value} {e : Expr} (h : some (Expr.lit v) = some e) : Compiled e = true := by
  cases h
  exact c_lit

theorem intLiteral_compiled {neg : Bool} {t : Str} {e : Expr} : intLiteral neg t = some e →
    Compiled e = true := by
  fun_cases intLiteral neg t
  · exact nofun
  · exact c_some_lit
  · exact nofun

theorem uintLiteral_compiled {t : Str} {e : Expr} : uintLiteral t = some e → Compiled e = true := by
  fun_cases uintLiteral t
  · exact nofun
  · exact c_some_lit
  · exact nofun

theorem doubleLiteral_compiled {neg : Bool} {t : Str} {e : Expr} : doubleLiteral neg t = some e →
    Compiled e = true := by
  fun_cases doubleLiteral neg t
  · exact c_some_lit
  · exact nofun
  · exact nofun

theorem stringLiteral_compiled {t : Str} {e : Expr} : stringLiteral t = some e → Compiled e = true := by
  unfold stringLiteral
  cases StrLit.parseString t
  · exact nofun
  · exact c_some_lit

theorem bytesLiteral_compiled {t : Str} {e : Expr} : bytesLiteral t = some e → Compiled e = true := by
  unfold bytesLiteral
  cases StrLit.parseBytes t
  · exact nofun
  · exact c_some_lit

open Macros in
theorem c_accu : Compiled accuIdent = true := c_ident

def CompiledOpt : Option Expr → Prop
  | none => True
  | some t => Compiled t = true

open Macros in
/-- every expander only wraps the receiver and the arguments in `comp`, `call`, `list`, `lit`,
`ident`, `select` nodes -/
theorem expand_compiled {f : String} {target : Option Expr} {args : List Expr} {e : Expr}
    (ht : CompiledOpt target) (ha : CompiledList args = true)
    (h : expand f target args = .ok e) : Compiled e = true := by
  revert ht ha
  refine expand_ok_elim
    (P := fun target args e => CompiledOpt target → CompiledList args = true → Compiled e = true)
    ?has ?all ?exist ?existsOne ?map ?filter ?mapFilter h
  case has => exact fun _ _ _ _ ha => c_select (c_select_inv (cl_inv ha).1)
  case all =>
    exact fun _ _ _ ht ha => c_comp ht c_lit (c_call1 c_accu) (c_call2 c_accu (cl_second ha)) c_accu
  case exist =>
    exact fun _ _ _ ht ha =>
      c_comp ht c_lit (c_call1 (c_call1 c_accu)) (c_call2 c_accu (cl_second ha)) c_accu
  case existsOne =>
    exact fun _ _ _ ht ha => c_comp ht c_lit c_lit
      (c_call3 (cl_second ha) (c_call2 c_accu c_lit) c_accu) (c_call2 c_accu c_lit)
  case map =>
    exact fun _ _ _ ht ha =>
      c_comp ht (c_list cl_nil) c_lit (c_call2 c_accu (c_list (cl_one (cl_second ha)))) c_accu
  case filter =>
    exact fun _ _ _ ht ha => c_comp ht (c_list cl_nil) c_lit
      (c_call3 (cl_second ha) (c_call2 c_accu (c_list (cl_one c_ident))) c_accu) c_accu
  case mapFilter =>
    exact fun _ _ _ _ ht ha => c_comp ht (c_list cl_nil) c_lit
      (c_call3 (cl_second ha) (c_call2 c_accu (c_list (cl_one (cl_inv (cl_inv (cl_inv ha).2).2).1))) c_accu)
      c_accu

theorem callOrMacro_compiled {f : String} {target : Option Expr} {args : List Expr} {e : Expr}
    (ht : CompiledOpt target) (ha : CompiledList args = true)
    (h : callOrMacro f target args = some e) : Compiled e = true := by
  unfold callOrMacro at h
  split at h
  · rename_i e' he
    cases h
    exact expand_compiled ht ha he
  · cases h
  · split at h
    · cases h; exact c_call ha
    · cases h; exact c_mcall ht ha

theorem c_ite_call1 {b : Bool} {f : String} {m : Expr} (hm : Compiled m = true) :
    Compiled (if b = true then m else .call f [m]) = true := by
  cases b
  · exact c_call1 hm
  · exact hm

theorem closed : Lemmas.ParserClosed.Closed (fun _ e _ => Compiled e = true)
    (fun _ acc e _ => Compiled acc = true → Compiled e = true)
    (fun _ acc res _ => CompiledList acc = true → CompiledList res = true)
    (fun _ _ es _ => CompiledList es = true) (fun _ es _ => CompiledEntries es = true)
    (fun _ _ vs _ => CompiledList vs = true) where
  cond := fun c a b => c_call3 c a b
  logic := fun op t la => logicExpr_compiled (cl_reverse (la (cl_one t)))
  logicMore := fun _ t la hacc => la (cl_cons t hacc)
  logicStop := id
  thread := fun l a => a l
  binMore := fun _ rhs a hl => a (c_call2 hl rhs)
  stop := id
  prefixOp := fun _ _ m => c_ite_call1 m
  sufCall := fun args hc a he0 => a (callOrMacro_compiled (target := some _) he0 args hc)
  sufSel := fun _ a he0 => a (c_select he0)
  sufIdx := fun i a he0 => a (c_call2 he0 i)
  seqNil := fun _ => cl_nil
  seqLast := fun _ a => cl_one a
  seqMore := fun _ a as => cl_cons a as
  entNil := ce_nil
  entLast := fun k v => ce_cons k v ce_nil
  entMore := fun k v es => ce_cons k v es
  fldNil := cl_nil
  fldLast := fun _ v => cl_one v
  fldMore := fun _ v vs => cl_cons v vs
  negInt := intLiteral_compiled
  negFloat := doubleLiteral_compiled
  int := intLiteral_compiled
  float := doubleLiteral_compiled
  uint := uintLiteral_compiled
  str := stringLiteral_compiled
  bytes := bytesLiteral_compiled
  kwTrue := c_lit
  kwFalse := c_lit
  kwNull := c_lit
  paren := id
  listEmpty := c_list cl_nil
  list := c_list
  mapEmpty := c_map ce_nil
  map := c_map
  msgEmpty := fun _ _ => c_struct cl_nil
  msg := fun _ _ f => c_struct f
  call := fun _ args hc => callOrMacro_compiled (target := none) trivial args hc
  ident := fun _ => c_ident

def QE (p : Toks → Option (Expr × Toks)) : Prop :=
  ∀ ts e rest, p ts = some (e, rest) → Compiled e = true
def QA (p : Toks → Expr → Option (Expr × Toks)) : Prop :=
  ∀ ts acc e rest, Compiled acc = true → p ts acc = some (e, rest) → Compiled e = true
def QLA (p : Toks → List Expr → Option (List Expr × Toks)) : Prop :=
  ∀ ts acc es rest, CompiledList acc = true → p ts acc = some (es, rest) → CompiledList es = true
def QL (p : Toks → Option (List Expr × Toks)) : Prop :=
  ∀ ts es rest, p ts = some (es, rest) → CompiledList es = true
def QM (p : Toks → Option (List (Expr × Expr) × Toks)) : Prop :=
  ∀ ts es rest, p ts = some (es, rest) → CompiledEntries es = true
def QF (p : Toks → Option (List Str × List Expr × Toks)) : Prop :=
  ∀ ts fs vs rest, p ts = some (fs, vs, rest) → CompiledList vs = true

/-- `closed.holds fuel` once more, function by function, under `QE` … `QF` (hypothesis on the
accumulator first), whose full names are used by statements elsewhere.  Nothing below rests on it:
`parseExpr_compiled` takes `(closed.holds fuel).expr`. -/
structure All (fuel : Nat) : Prop where
  expr : QE (parseExpr fuel)
  or : QE (parseOr fuel)
  orRest : QLA (parseOrRest fuel)
  and : QE (parseAnd fuel)
  andRest : QLA (parseAndRest fuel)
  rel : QE (parseRel fuel)
  relRest : QA (parseRelRest fuel)
  add : QE (parseAdd fuel)
  addRest : QA (parseAddRest fuel)
  mul : QE (parseMul fuel)
  mulRest : QA (parseMulRest fuel)
  unary : QE (parseUnary fuel)
  member : QE (parseMember fuel)
  suffix : QA (parseSuffix fuel)
  args : QL (parseArgs fuel)
  elems : QL (parseListElems fuel)
  entries : QM (parseMapEntries fuel)
  fields : QF (parseFields fuel)
  primary : QE (parsePrimary fuel)

theorem all (fuel : Nat) : All fuel :=
  have H := closed.holds fuel
  ⟨H.expr, H.or, fun _ _ _ _ ha h => H.orRest h ha, H.and, fun _ _ _ _ ha h => H.andRest h ha,
    H.rel, fun _ _ _ _ ha h => H.relRest h ha, H.add, fun _ _ _ _ ha h => H.addRest h ha,
    H.mul, fun _ _ _ _ ha h => H.mulRest h ha, H.unary, H.member,
    fun _ _ _ _ ha h => H.suffix h ha, H.args, H.elems, H.entries, H.fields, H.primary⟩

theorem parseExpr_compiled {fuel : Nat} {ts rest : Toks} {e : Expr}
    (h : parseExpr fuel ts = some (e, rest)) : Compiled e = true := (closed.holds fuel).expr h

end ParserCompiled
end Cel
