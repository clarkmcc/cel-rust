import CelModel.Lemmas.F64Interval
/-!
# Toolkit for the correct-rounding proof of `F64.roundRatPos`

A fraction `x = num / den` is compared with dyadic numbers `c · 2^z` (`c : Nat`, `z : Int`) by
cross-multiplication.  `PL c z` means `c · 2^z ≤ x`, `PU c z` means `x ≤ c · 2^z`; the strict
comparisons are the negations.  Every comparison that `roundRatPos` makes and every inequality
of `InInterval` has the shape `c * 2^α * den ≤ num * 2^β`, which only depends on `α - β`.
`roundRatPos` itself is one expression; its steps get names (`scaled`, `roundPair`, `roundCore`,
`finish`) so that each can be stated about, and `roundRatPos_eq` puts them together by `rfl`.

`round_main` is what `F64Round` calls: a fraction within half a unit of `K · 2^le` rounds to
`finish K le`.  `Props/C13d` uses `round_frame`, `roundCore_le` and `finish_overflow`/`finish_zero`
for the fractions beyond the range.  Before the toolkit, in `Cel.F64`: `isBoundary`, `lowQ`, `unit4`
on the forms of input this file and the ones downstream meet.
-/
namespace Cel.F64

theorem isBoundary_iff (m : Nat) (e : Int) : isBoundary m e = true ↔ m = 2 ^ 52 ∧ e > -1074 := by
  simp [isBoundary]

theorem lowQ_boundary {m : Nat} {e : Int} (h : isBoundary m e = true) : lowQ m e = 4 * m - 1 :=
  if_pos h

theorem lowQ_not_boundary {m : Nat} {e : Int} (h : ¬ isBoundary m e = true) : lowQ m e = 4 * m - 2 :=
  if_neg h

theorem lowQ_of_ne (m : Nat) (e : Int) (h : m ≠ 2 ^ 52) : lowQ m e = 4 * m - 2 :=
  lowQ_not_boundary fun hb => h ((isBoundary_iff m e).1 hb).1

theorem lowQ_ge (m : Nat) (e : Int) : 4 * m - 2 ≤ lowQ m e := by
  unfold lowQ
  split <;> omega

theorem lowQ_le (m : Nat) (e : Int) : lowQ m e ≤ 4 * m - 1 := by
  unfold lowQ
  split <;> omega

theorem unit4_natCast (l : Nat) : unit4 (l : Int) = 2 ^ l * 2 ^ 1074 :=
  (congrArg (2 ^ ·) (by omega : ((l : Int) + 1074).toNat = l + 1074)).trans (Nat.pow_add 2 l 1074)

end Cel.F64

namespace Cel.Lemmas.F64RoundCore
open Cel.F64

def finish (mant : Nat) (le : Int) : Option Nat :=
  let (mant, le) := if mant == 2 ^ 53 then (2 ^ 52, le + 1) else (mant, le)
  if mant < 2 ^ 52 then some mant
  else
    let ex : Int := le + 1075
    if ex ≥ 2047 then none else some (ex.toNat * 2 ^ 52 + (mant - 2 ^ 52))

def roundCore (q : Nat) (sticky : Bool) (shI : Int) : Option Nat :=
  let qb := Nat.log2 q
  let topE : Int := (qb : Int) - shI
  let le : Int := if topE - 52 ≥ -1074 then topE - 52 else -1074
  let drop : Nat := (le + shI).toNat
  let keep := q / 2 ^ drop
  let rest := q % 2 ^ drop
  let half := 2 ^ (drop - 1)
  let up : Bool := rest > half || (rest == half && (sticky || keep % 2 == 1))
  finish (if up then keep + 1 else keep) le

def scaled (num den : Nat) (shI : Int) : Nat × Nat :=
  if shI ≥ 0 then (num * 2 ^ shI.toNat, den) else (num, den * 2 ^ (-shI).toNat)

/-- the `match` is the one `roundRatPos` makes: `roundRatPos_eq` has to hold by `rfl`, and
projections of the pair would not reduce against that `match` -/
def roundPair (p : Nat × Nat) (shI : Int) : Option Nat :=
  match p with
  | (n', d') => roundCore (n' / d') (n' % d' != 0) shI

theorem roundRatPos_eq (num den : Nat) :
    roundRatPos num den =
      if num == 0 then some 0 else
        roundPair (scaled num den (56 - (Nat.log2 num : Int) + (Nat.log2 den : Int)))
          (56 - (Nat.log2 num : Int) + (Nat.log2 den : Int)) := rfl

theorem scaled_frame (num den : Nat) (shI : Int) :
    ∃ sa sb : Nat, scaled num den shI = (num * 2 ^ sa, den * 2 ^ sb) ∧ (sa : Int) - sb = shI := by
  by_cases h : shI ≥ 0
  · exact ⟨shI.toNat, 0, by simp [scaled, h], by omega⟩
  · exact ⟨0, (-shI).toNat, by simp [scaled, h], by omega⟩

theorem roundCore_le (q : Nat) (st : Bool) (shI le : Int) (drop : Nat)
    (hle : (if (Nat.log2 q : Int) - shI - 52 ≥ -1074 then (Nat.log2 q : Int) - shI - 52
      else -1074) = le)
    (hdrop : (le + shI).toNat = drop) :
    roundCore q st shI =
      finish (if (decide (q % 2 ^ drop > 2 ^ (drop - 1)) ||
                (q % 2 ^ drop == 2 ^ (drop - 1) && (st || q / 2 ^ drop % 2 == 1)))
              then q / 2 ^ drop + 1 else q / 2 ^ drop) le := by
  subst hle; subst hdrop; rfl

theorem finish_valid {m : Nat} {e : Int} (hm : m < 2 ^ 53)
    (he : m < 2 ^ 52 ∨ (-1074 ≤ e ∧ e ≤ 971)) : finish m e = some (encodePos m e) := by
  have h1 : (m == 2 ^ 53) = false := by
    rw [beq_eq_false_iff_ne]
    omega
  by_cases h2 : m < 2 ^ 52
  · simp only [finish, h1, h2, if_true, Bool.false_eq_true, if_false, encodePos]
  · have h3 : ¬ e + 1075 ≥ 2047 := by omega
    simp only [finish, h1, h2, h3, if_false, Bool.false_eq_true, encodePos]

theorem finish_renorm {e : Int} (he2 : e ≤ 971) :
    finish (2 ^ 53) (e - 1) = some (encodePos (2 ^ 52) e) := by
  have h3 : ¬ (e + 1075 ≥ 2047) := by omega
  have h4 : e - 1 + 1 = e := by omega
  simp only [finish, beq_self_eq_true, if_true, Nat.lt_irrefl, if_false, h4, h3, encodePos]

theorem finish_overflow {m : Nat} {le : Int} (hm : 2 ^ 52 ≤ m) (hle : 972 ≤ le) :
    finish m le = none := by
  unfold finish
  by_cases h : m = 2 ^ 53
  · subst h
    have h3 : le + 1 + 1075 ≥ 2047 := by omega
    simp only [beq_self_eq_true, if_true, Nat.lt_irrefl, if_false, h3]
  · have h1 : (m == 2 ^ 53) = false := by rw [beq_eq_false_iff_ne]; exact h
    have h2 : ¬ m < 2 ^ 52 := by omega
    have h3 : le + 1075 ≥ 2047 := by omega
    simp only [h1, Bool.false_eq_true, if_false, h2, h3, if_true]

theorem finish_zero {le : Int} : finish 0 le = some 0 :=
  finish_valid (m := 0) (by decide) (Or.inl (by decide))

/-- `c · 2^z ≤ num / den` -/
def PL (num den c : Nat) (z : Int) : Prop := c * 2 ^ z.toNat * den ≤ num * 2 ^ (-z).toNat
/-- `num / den ≤ c · 2^z` -/
def PU (num den c : Nat) (z : Int) : Prop := num * 2 ^ (-z).toNat ≤ c * 2 ^ z.toNat * den

instance (num den c : Nat) (z : Int) : Decidable (PL num den c z) := Nat.decLe _ _

theorem canon (num den c α β : Nat) (z : Int) (h : (α : Int) - β = z) :
    (c * 2 ^ α * den ≤ num * 2 ^ β ↔ PL num den c z) ∧
      (num * 2 ^ β ≤ c * 2 ^ α * den ↔ PU num den c z) := by
  obtain ⟨k, h1, h2⟩ : ∃ k, α = z.toNat + k ∧ β = (-z).toNat + k := ⟨min α β, by omega, by omega⟩
  unfold PL PU
  rw [h1, h2, Nat.pow_add, Nat.pow_add]
  have e1 : c * (2 ^ z.toNat * 2 ^ k) * den = c * 2 ^ z.toNat * den * 2 ^ k := by
    rw [← Nat.mul_assoc, Nat.mul_right_comm]
  have e2 : num * (2 ^ (-z).toNat * 2 ^ k) = num * 2 ^ (-z).toNat * 2 ^ k := by
    rw [Nat.mul_assoc]
  rw [e1, e2]
  exact ⟨Nat.mul_le_mul_right_iff (Nat.two_pow_pos k), Nat.mul_le_mul_right_iff (Nat.two_pow_pos k)⟩

theorem PL_shift (num den c k : Nat) (z : Int) :
    PL num den (c * 2 ^ k) z ↔ PL num den c (z + k) := by
  rw [← (canon num den c (z.toNat + k) (-z).toNat (z + k) (by omega)).1]
  unfold PL
  rw [Nat.pow_add, Nat.mul_assoc c, Nat.mul_comm (2 ^ k)]

theorem PU_shift (num den c k : Nat) (z : Int) :
    PU num den (c * 2 ^ k) z ↔ PU num den c (z + k) := by
  rw [← (canon num den c (z.toNat + k) (-z).toNat (z + k) (by omega)).2]
  unfold PU
  rw [Nat.pow_add, Nat.mul_assoc c, Nat.mul_comm (2 ^ k)]

theorem PL_mono {num den c c' : Nat} {z : Int} (h : PL num den c z) (hc : c' ≤ c) :
    PL num den c' z := by
  unfold PL at *
  exact Nat.le_trans (Nat.mul_le_mul_right _ (Nat.mul_le_mul_right _ hc)) h

theorem PU_mono {num den c c' : Nat} {z : Int} (h : PU num den c z) (hc : c ≤ c') :
    PU num den c' z := by
  unfold PU at *
  exact Nat.le_trans h (Nat.mul_le_mul_right _ (Nat.mul_le_mul_right _ hc))

theorem PU_of_not_PL {num den c : Nat} {z : Int} (h : ¬ PL num den c z) : PU num den c z := by
  unfold PL at h; unfold PU; omega

theorem PL_PU_le {num den c c' : Nat} {z : Int} (hden : 0 < den) (h1 : PL num den c z)
    (h2 : PU num den c' z) : c ≤ c' := by
  unfold PL at h1; unfold PU at h2
  have h := Nat.le_trans h1 h2
  rw [Nat.mul_assoc, Nat.mul_assoc] at h
  exact Nat.le_of_mul_le_mul_right h (Nat.mul_pos (Nat.two_pow_pos _) hden)

theorem PL_one_mono {num den : Nat} {z z' : Int} (h : PL num den 1 z) (hz : z' ≤ z) :
    PL num den 1 z' := by
  have e : z = z' + ((z - z').toNat : Nat) := by omega
  rw [e, ← PL_shift] at h
  exact PL_mono h (by have := Nat.two_pow_pos (z - z').toNat; omega)

theorem PL_pow {num den k : Nat} {z : Int} : PL num den (2 ^ k) z ↔ PL num den 1 (z + k) := by
  rw [← PL_shift, Nat.one_mul]

theorem PL_one_nat {num den : Nat} (k : Nat) : PL num den 1 (k : Int) ↔ 2 ^ k * den ≤ num := by
  unfold PL
  have e2 : (-(k : Int)).toNat = 0 := by omega
  rw [Int.toNat_natCast, e2, Nat.one_mul, Nat.pow_zero, Nat.mul_one]

theorem top_lt_of_not_PL {num den : Nat} (k : Nat) {z t : Int} (hU : ¬ PL num den (2 ^ k) z)
    (ht : PL num den 1 t) : t < z + k := by
  apply Int.lt_of_not_ge
  intro hge
  exact hU (PL_pow.2 (PL_one_mono ht hge))

theorem top_lt {num den c : Nat} (k : Nat) {z t : Int} (hden : 0 < den) (hU : PU num den c z)
    (hc : c < 2 ^ k) (ht : PL num den 1 t) : t < z + k :=
  top_lt_of_not_PL k (fun h => Nat.lt_irrefl _ (Nat.lt_of_le_of_lt (PL_PU_le hden h hU) hc)) ht

theorem top_ge {num den c : Nat} (k : Nat) {z t : Int} (hL : PL num den c z) (hc : 2 ^ k ≤ c)
    (ht : ¬ PL num den 1 (t + 1)) : z + k ≤ t := by
  apply Int.le_of_not_gt
  intro hlt
  have h1 := PL_pow.1 (PL_mono hL hc)
  exact ht (PL_one_mono h1 (by omega))

/-- `InInterval` as dyadic comparisons -/
theorem interval_facts {m : Nat} {e : Int} (he : -1074 ≤ e) {num den : Nat}
    (hin : InInterval m e num den) :
    PL num den (lowQ m e) (e - 2) ∧ PU num den (highQ m) (e - 2) ∧
      (m % 2 = 1 → ¬ PU num den (lowQ m e) (e - 2) ∧ ¬ PL num den (highQ m) (e - 2)) := by
  unfold InInterval unit4 at hin
  generalize hβ : (1076 : Nat) = β at hin
  have cL := fun c => (canon num den c (e + 1074).toNat β (e - 2) (by omega)).1
  have cU := fun c => (canon num den c (e + 1074).toNat β (e - 2) (by omega)).2
  split at hin
  · exact ⟨(cL _).1 hin.1, (cU _).1 hin.2, fun h => by omega⟩
  · refine ⟨(cL _).1 (Nat.le_of_lt hin.1), (cU _).1 (Nat.le_of_lt hin.2), fun _ => ⟨?_, ?_⟩⟩
    · intro h; have := (cU _).2 h; omega
    · intro h; have := (cL _).2 h; omega

/-- round half even is determined by the interval: `n = 2·keep·W + f`, `0 ≤ f < 2W`, within `W` of
`2·K·W` (end points only for even `K`) rounds to `K` -/
theorem rhe_unique {keep K W f n : Nat} (hn : n = 2 * (keep * W) + f) (hf : f < 2 * W)
    (hlo : 2 * (K * W) ≤ n + W) (hhi : n ≤ 2 * (K * W) + W)
    (hodd : K % 2 = 1 → 2 * (K * W) < n + W ∧ n < 2 * (K * W) + W) :
    (if f > W ∨ (f = W ∧ keep % 2 = 1) then keep + 1 else keep) = K := by
  subst hn
  have h1 : keep + 2 ≤ K → keep * W + 2 * W ≤ K * W := fun h => by
    rw [← Nat.add_mul]
    exact Nat.mul_le_mul_right W h
  have h2 : K + 1 ≤ keep → K * W + W ≤ keep * W := fun h => by
    rw [← Nat.succ_mul]
    exact Nat.mul_le_mul_right W h
  have hk : keep + 1 = K ∨ keep = K := by omega
  rcases hk with rfl | rfl
  · have e : (keep + 1) * W = keep * W + W := Nat.succ_mul keep W
    rw [e] at hlo hhi hodd
    split <;> omega
  · split <;> omega

/-- the round-up test of `roundRatPos` compares the exact fractional part `rest·d + r` with the
half `H·d` -/
theorem up_iff (rest keep H d r : Nat) (hr : r < d) :
    (decide (rest > H) || (rest == H && (r != 0 || keep % 2 == 1))) = true ↔
      (rest * d + r > H * d ∨ (rest * d + r = H * d ∧ keep % 2 = 1)) := by
  simp only [Bool.or_eq_true, Bool.and_eq_true, decide_eq_true_eq, beq_iff_eq, bne_iff_ne, ne_eq]
  rcases Nat.lt_trichotomy rest H with h | h | h
  · have := Nat.mul_le_mul_right d (Nat.succ_le_of_lt h)
    rw [Nat.succ_mul] at this
    omega
  · subst h
    omega
  · have := Nat.mul_le_mul_right d (Nat.succ_le_of_lt h)
    rw [Nat.succ_mul] at this
    omega

/-- the rounding step of `roundRatPos`: `n'/d'` within half a unit `2^drop` of `K·2^drop` (end
points only for even `K`) gives `K` -/
theorem mant_eq {n' d' drop K : Nat} (hd : 0 < d') (hdrop : 1 ≤ drop) (hK : 1 ≤ K)
    (hlo : (2 * K - 1) * (2 ^ drop * d') ≤ 2 * n')
    (hhi : 2 * n' ≤ (2 * K + 1) * (2 ^ drop * d'))
    (hodd : K % 2 = 1 →
      (2 * K - 1) * (2 ^ drop * d') < 2 * n' ∧ 2 * n' < (2 * K + 1) * (2 ^ drop * d')) :
    (if (decide (n' / d' % 2 ^ drop > 2 ^ (drop - 1)) ||
         (n' / d' % 2 ^ drop == 2 ^ (drop - 1) &&
           (n' % d' != 0 || n' / d' / 2 ^ drop % 2 == 1)))
     then n' / d' / 2 ^ drop + 1 else n' / d' / 2 ^ drop) = K := by
  obtain ⟨dr, rfl⟩ : ∃ dr, drop = dr + 1 := ⟨drop - 1, by omega⟩
  have hG : 2 ^ (dr + 1) = 2 * 2 ^ dr := by rw [Nat.pow_succ, Nat.mul_comm]
  simp only [Nat.add_sub_cancel, hG] at hlo hhi hodd ⊢
  have hH := Nat.two_pow_pos dr
  generalize 2 ^ dr = H at *
  -- the bounds in units of `W = H·d'`
  have e1 : ∀ c, c * (2 * H * d') = 2 * (c * (H * d')) := fun c => by
    rw [Nat.mul_assoc 2, Nat.mul_left_comm]
  have e2 : ∀ W, (2 * K - 1) * W + W = 2 * (K * W) := fun W => by
    rw [← Nat.succ_mul, ← Nat.mul_assoc]
    congr 1
    omega
  have e3 : ∀ W, (2 * K + 1) * W = 2 * (K * W) + W := fun W => by
    rw [Nat.succ_mul, Nat.mul_assoc]
  have e2' := e2 (H * d')
  simp only [e1, e3] at hlo hhi hodd
  have hlo' : 2 * (K * (H * d')) ≤ n' + H * d' := by omega
  have hhi' : n' ≤ 2 * (K * (H * d')) + H * d' := by omega
  have hodd' : K % 2 = 1 → 2 * (K * (H * d')) < n' + H * d' ∧ n' < 2 * (K * (H * d')) + H * d' := by
    omega
  -- `n' = d'·q + r`, `q = 2H·keep + rest`, so `n' = 2·keep·W + (rest·d' + r)`
  have hn := Nat.div_add_mod n' d'
  have hr := Nat.mod_lt n' hd
  generalize n' / d' = q at *
  generalize n' % d' = r at *
  have hq := Nat.div_add_mod q (2 * H)
  have hrest := Nat.mod_lt q (show 0 < 2 * H by omega)
  generalize q / (2 * H) = keep at *
  generalize q % (2 * H) = rest at *
  have hn' : n' = 2 * (keep * (H * d')) + (rest * d' + r) := by
    rw [← hn, ← hq, Nat.mul_add, Nat.add_assoc, Nat.mul_comm d' rest]
    congr 1
    ac_rfl
  have hf : rest * d' + r < 2 * (H * d') := by
    have := Nat.mul_le_mul_right d' (Nat.succ_le_of_lt hrest)
    rw [Nat.succ_mul, Nat.mul_assoc] at this
    omega
  simp only [up_iff rest keep H d' r hr]
  exact rhe_unique hn' hf hlo' hhi' hodd'

/-- comparisons in the scaled frame `n' = num·2^sa`, `d' = den·2^sb` -/
theorem frameL (num den sa sb c γ : Nat) {z : Int} (hz : (γ : Int) + sb - sa = z) :
    c * 2 ^ γ * (den * 2 ^ sb) ≤ num * 2 ^ sa ↔ PL num den c z := by
  rw [← (canon num den c (γ + sb) sa z (by omega)).1]
  have e : c * 2 ^ γ * (den * 2 ^ sb) = c * 2 ^ (γ + sb) * den := by rw [Nat.pow_add]; ac_rfl
  rw [e]

theorem frame2 (num den sa sb : Nat) {c : Nat} (drop : Nat) {z : Int} (hz : (drop : Int) + sb - sa - 1 = z) :
    (c * (2 ^ drop * (den * 2 ^ sb)) ≤ 2 * (num * 2 ^ sa) ↔ PL num den c z) ∧
      (2 * (num * 2 ^ sa) ≤ c * (2 ^ drop * (den * 2 ^ sb)) ↔ PU num den c z) := by
  have e1 : c * (2 ^ drop * (den * 2 ^ sb)) = c * 2 ^ (drop + sb) * den := by
    rw [Nat.pow_add]; ac_rfl
  have e2 : 2 * (num * 2 ^ sa) = num * 2 ^ (sa + 1) := by rw [Nat.pow_succ]; ac_rfl
  rw [e1, e2]
  exact canon num den c (drop + sb) (sa + 1) z (by omega)

/-- the scaled quotient has at least 56 bits -/
theorem q_lower {num den sa sb ln ld : Nat} (hn : 2 ^ ln ≤ num) (hd : den < 2 ^ (ld + 1))
    (hs : (sa : Int) - sb = 56 - (ln : Int) + (ld : Int)) :
    2 ^ 55 * (den * 2 ^ sb) ≤ num * 2 ^ sa := by
  have h1 : den * 2 ^ sb ≤ 2 ^ (ld + 1) * 2 ^ sb := Nat.mul_le_mul_right _ (Nat.le_of_lt hd)
  have h2 : 2 ^ ln * 2 ^ sa ≤ num * 2 ^ sa := Nat.mul_le_mul_right _ hn
  have h3 : 2 ^ 55 * (2 ^ (ld + 1) * 2 ^ sb) = 2 ^ ln * 2 ^ sa := by
    rw [← Nat.pow_add, ← Nat.pow_add, ← Nat.pow_add]; congr 1; omega
  omega

/-- the quotient `q` has at least 56 bits and its top bit `log2 q - shI` frames the fraction -/
theorem round_frame {num den : Nat} (hnum : 0 < num) (hden : 0 < den) :
    ∃ (sa sb : Nat) (shI : Int), 0 < den * 2 ^ sb ∧
      roundRatPos num den = roundCore (num * 2 ^ sa / (den * 2 ^ sb))
        (num * 2 ^ sa % (den * 2 ^ sb) != 0) shI ∧
      55 ≤ Nat.log2 (num * 2 ^ sa / (den * 2 ^ sb)) ∧
      2 ^ Nat.log2 (num * 2 ^ sa / (den * 2 ^ sb)) ≤ num * 2 ^ sa / (den * 2 ^ sb) ∧
      num * 2 ^ sa / (den * 2 ^ sb) < 2 ^ (Nat.log2 (num * 2 ^ sa / (den * 2 ^ sb)) + 1) ∧
      PL num den 1 ((Nat.log2 (num * 2 ^ sa / (den * 2 ^ sb)) : Int) - shI) ∧
      ¬ PL num den 1 ((Nat.log2 (num * 2 ^ sa / (den * 2 ^ sb)) : Int) - shI + 1) ∧
      (sa : Int) - sb = shI := by
  have hnum0 : num ≠ 0 := by omega
  have hden0 : den ≠ 0 := by omega
  have hln := (Nat.log2_eq_iff hnum0).1 rfl
  have hld := (Nat.log2_eq_iff hden0).1 rfl
  have h0 : (num == 0) = false := by simp [hnum0]
  rw [roundRatPos_eq, h0]
  simp only [Bool.false_eq_true, if_false]
  obtain ⟨sa, sb, hsc, hs⟩ :=
    scaled_frame num den (56 - (Nat.log2 num : Int) + (Nat.log2 den : Int))
  rw [hsc]
  unfold roundPair
  have hql := q_lower hln.1 hld.2 hs
  generalize (56 - (Nat.log2 num : Int) + (Nat.log2 den : Int)) = shI at *
  have hd' : 0 < den * 2 ^ sb := Nat.mul_pos hden (Nat.two_pow_pos _)
  have hq55 : 2 ^ 55 ≤ num * 2 ^ sa / (den * 2 ^ sb) := (Nat.le_div_iff_mul_le hd').2 hql
  have hq0 : num * 2 ^ sa / (den * 2 ^ sb) ≠ 0 := by omega
  have hqb := (Nat.log2_eq_iff hq0).1 rfl
  refine ⟨sa, sb, shI, hd', rfl, (Nat.le_log2 hq0).2 hq55, hqb.1, hqb.2, ?_, ?_, hs⟩
  · refine (frameL num den sa sb 1 (Nat.log2 (num * 2 ^ sa / (den * 2 ^ sb))) (by omega)).1 ?_
    rw [Nat.one_mul]
    exact (Nat.le_div_iff_mul_le hd').1 hqb.1
  · intro h
    have h' := (frameL num den sa sb 1 (Nat.log2 (num * 2 ^ sa / (den * 2 ^ sb)) + 1)
      (by omega)).2 h
    rw [Nat.one_mul] at h'
    have := (Nat.le_div_iff_mul_le hd').2 h'
    omega

/-- `x = num/den` within half a unit `2^le` of `K·2^le` (ties only for even `K`), `le` the lsb
exponent the algorithm derives from the top bit of `x`: the result is `finish K le` -/
theorem round_main {num den : Nat} (hnum : 0 < num) (hden : 0 < den) (K : Nat) (le : Int)
    (hK : 1 ≤ K)
    (hlo : PL num den (2 * K - 1) (le - 1)) (hhi : PU num den (2 * K + 1) (le - 1))
    (hodd : K % 2 = 1 → ¬ PU num den (2 * K - 1) (le - 1) ∧ ¬ PL num den (2 * K + 1) (le - 1))
    (hle : ∀ topE : Int, PL num den 1 topE → ¬ PL num den 1 (topE + 1) →
      (if topE - 52 ≥ -1074 then topE - 52 else -1074) = le) :
    roundRatPos num den = finish K le := by
  obtain ⟨sa, sb, shI, hd', hr, hqb55, _, _, hP1, hP2, hs⟩ := round_frame hnum hden
  have hle' := hle _ hP1 hP2
  obtain ⟨drop, hdrop⟩ : ∃ drop : Nat, (drop : Int) = le + shI := by
    refine ⟨(le + shI).toNat, ?_⟩
    split at hle' <;> omega
  rw [hr, roundCore_le _ _ shI le drop hle' (by omega)]
  congr 1
  refine mant_eq hd' (by omega) hK ?_ ?_ ?_
  · exact (frame2 num den sa sb drop (by omega)).1.2 hlo
  · exact (frame2 num den sa sb drop (by omega)).2.2 hhi
  · intro hp
    obtain ⟨h1, h2⟩ := hodd hp
    constructor
    · exact Nat.lt_of_not_le (fun h => h1 ((frame2 num den sa sb drop (by omega)).2.1 h))
    · exact Nat.lt_of_not_le (fun h => h2 ((frame2 num den sa sb drop (by omega)).1.1 h))

end Cel.Lemmas.F64RoundCore
