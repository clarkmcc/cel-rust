import CelModel.Lemmas.Monad
/-!
# Equations of the evaluator

The model follows the Rust text clause by clause, with the parts of `extract`, `applyFn`, `callNode`
and `eval` written inline.  Proofs do not unfold it: they rewrite with the equations here, one per
clause, and with the inline parts under names of their own (`extractOne`, `fnFinish`, `fnCall`,
`rangeOf`), on which the rules of `Lemmas/Closed.lean` and of the calculi are stated.  A traversal
starts from `Expr.ind` (one motive) and meets a call node through `callNode_cases`.
-/
namespace Cel

theorem Expr.ind {motive : Expr → Prop}
    (lit : ∀ v, motive (.lit v))
    (ident : ∀ n, motive (.ident n))
    (call : ∀ f args, (∀ a ∈ args, motive a) → motive (.call f args))
    (mcall : ∀ f t args, motive t → (∀ a ∈ args, motive a) → motive (.mcall f t args))
    (select : ∀ e field test, motive e → motive (.select e field test))
    (list : ∀ es, (∀ e ∈ es, motive e) → motive (.list es))
    (map : ∀ es, (∀ kv ∈ es, motive kv.1 ∧ motive kv.2) → motive (.map es))
    (struct : ∀ name fields vals, (∀ e ∈ vals, motive e) → motive (.struct name fields vals))
    (comp : ∀ iv range av init cond step result, motive range → motive init → motive cond →
      motive step → motive result → motive (.comp iv range av init cond step result))
    (unspecified : motive .unspecified) : ∀ e, motive e := by
  apply Expr.rec (motive_1 := motive) (motive_2 := fun es => ∀ e ∈ es, motive e)
    (motive_3 := fun es => ∀ kv ∈ es, motive kv.1 ∧ motive kv.2)
    (motive_4 := fun kv => motive kv.1 ∧ motive kv.2)
  case lit => exact lit
  case ident => exact ident
  case call => exact call
  case mcall => exact mcall
  case select => exact select
  case list => exact list
  case map => exact map
  case struct => exact struct
  case comp => exact comp
  case unspecified => exact unspecified
  case nil => exact fun _ h => nomatch h
  case cons =>
    intro e es he hes x hx
    rcases List.mem_cons.mp hx with rfl | hx
    · exact he
    · exact hes x hx
  case nil => exact fun _ h => nomatch h
  case cons =>
    intro kv es hkv hes x hx
    rcases List.mem_cons.mp hx with rfl | hx
    · exact hkv
    · exact hes x hx
  case mk => exact fun _ _ hk hv => ⟨hk, hv⟩

/-- from the list clause `PL (a :: l) = (P a && PL l)` of a Boolean predicate on trees defined by
mutual recursion (`Compiled`, `litRanges`, `AccuClosed`) to `∀ a ∈ l` -/
theorem forall_mem_of_and_cons {α : Type} {P : α → Bool} {PL : List α → Bool}
    (hcons : ∀ a l, PL (a :: l) = (P a && PL l)) {l : List α} (h : PL l = true) :
    ∀ a ∈ l, P a = true := by
  induction l with
  | nil => exact fun _ ha => nomatch ha
  | cons x l ih =>
    rw [hcons, Bool.and_eq_true] at h
    intro a ha
    rcases List.mem_cons.mp ha with rfl | ha
    · exact h.1
    · exact ih h.2 a ha

theorem eval_lit (ctx : Ctx) (v : Value) : eval ctx (.lit v) = (do M.tick; pure v) := by
  rw [eval]

theorem eval_ident (ctx : Ctx) (n : String) :
    eval ctx (.ident n) = (do
      M.tick
      match ctx.getVariable n with
      | some v => pure v
      | none => M.throw (.undeclared n)) := by
  rfl

theorem eval_call (ctx : Ctx) (f : String) (args : List Expr) :
    eval ctx (.call f args) = (do M.tick; callNode ctx f none args (evalThunks ctx args)) := by
  rw [eval]

theorem eval_mcall (ctx : Ctx) (f : String) (t : Expr) (args : List Expr) :
    eval ctx (.mcall f t args) =
      (do M.tick; callNode ctx f (some (eval ctx t)) args (evalThunks ctx args)) := by
  rw [eval]

theorem eval_select (ctx : Ctx) (e : Expr) (field : Str) (test : Bool) :
    eval ctx (.select e field test) = (do
      M.tick
      let v ← eval ctx e
      if test then pure (hasField v field) else M.lift (member ctx v field)) := by
  rw [eval]

theorem eval_list (ctx : Ctx) (es : List Expr) :
    eval ctx (.list es) = (do M.tick; let vs ← evalList ctx es; pure (.list vs)) := by
  rw [eval]

theorem eval_map (ctx : Ctx) (es : List (Expr × Expr)) :
    eval ctx (.map es) = (do M.tick; let m ← evalEntries ctx es []; pure (.map m)) := by
  rw [eval]

theorem eval_struct (ctx : Ctx) (name : String) (fields : List Str) (vals : List Expr) :
    eval ctx (.struct name fields vals) = (do M.tick; M.throw .functionError) := by
  rw [eval]

def rangeOf (r : Value) : EvalM (List Value) :=
  match r with
  | .list xs => pure xs
  | .map m => pure (m.map (fun kv => kv.1.toValue))
  | _ => M.throw .badTarget

theorem rangeOf_list (xs : List Value) : rangeOf (.list xs) = pure xs := rfl

theorem rangeOf_map (m : MapV) : rangeOf (.map m) = pure (m.map fun kv => kv.1.toValue) := rfl

/-- a range yields its items, or is no range -/
theorem rangeOf_cases {motive : EvalM (List Value) → Prop} (r : Value)
    (items : ∀ xs, motive (pure xs)) (other : motive (M.throw .badTarget)) :
    motive (rangeOf r) := by
  unfold rangeOf
  split
  · exact items _
  · exact items _
  · exact other

theorem eval_comp (ctx : Ctx) (iv av : String) (range init cond step result : Expr) :
    eval ctx (.comp iv range av init cond step result) = (do
      M.tick
      let vinit ← eval ctx init
      let r ← eval ctx range
      let items ← rangeOf r
      let sc ← loopG iv av (fun sc => eval (ctx.push sc) cond) (fun sc => eval (ctx.push sc) step)
        items [(av, vinit)]
      eval (ctx.push sc) result) := by
  rfl

theorem eval_unspecified (ctx : Ctx) :
    eval ctx .unspecified = M.panic "objects.rs: Can't evaluate Unspecified Expr" := by
  rw [eval]

theorem execute_eq (ctx : Ctx) (e : Expr) : execute ctx e = eval ctx e {} := rfl

theorem evalThunks_nil (ctx : Ctx) : evalThunks ctx [] = [] := by
  rw [evalThunks]

theorem evalThunks_cons (ctx : Ctx) (e : Expr) (es : List Expr) :
    evalThunks ctx (e :: es) = eval ctx e :: evalThunks ctx es := by
  rw [evalThunks]

theorem evalThunks_eq_map (ctx : Ctx) (es : List Expr) : evalThunks ctx es = es.map (eval ctx) := by
  induction es with
  | nil => rw [evalThunks_nil, List.map_nil]
  | cons e es ih => rw [evalThunks_cons, List.map_cons, ih]

theorem mem_evalThunks {ctx : Ctx} {es : List Expr} {t : EvalM Value} (h : t ∈ evalThunks ctx es) :
    ∃ e ∈ es, t = eval ctx e := by
  rw [evalThunks_eq_map] at h
  obtain ⟨e, he, rfl⟩ := List.mem_map.mp h
  exact ⟨e, he, rfl⟩

theorem evalThunks_length (ctx : Ctx) (es : List Expr) :
    (evalThunks ctx es).length = es.length := by
  rw [evalThunks_eq_map, List.length_map]

theorem evalThunks_one (ctx : Ctx) (a : Expr) : evalThunks ctx [a] = [eval ctx a] := by
  rw [evalThunks_cons, evalThunks_nil]

theorem evalThunks_two (ctx : Ctx) (a b : Expr) :
    evalThunks ctx [a, b] = [eval ctx a, eval ctx b] := by
  rw [evalThunks_cons, evalThunks_one]

theorem evalThunks_three (ctx : Ctx) (a b c : Expr) :
    evalThunks ctx [a, b, c] = [eval ctx a, eval ctx b, eval ctx c] := by
  rw [evalThunks_cons, evalThunks_two]

theorem evalList_nil (ctx : Ctx) : evalList ctx [] = pure [] := by
  rw [evalList]

theorem evalList_cons (ctx : Ctx) (e : Expr) (es : List Expr) :
    evalList ctx (e :: es) = (do
      let v ← eval ctx e
      let vs ← evalList ctx es
      pure (v :: vs)) := by
  rw [evalList]

theorem evalEntries_nil (ctx : Ctx) (acc : MapV) : evalEntries ctx [] acc = pure acc := by
  rw [evalEntries]

theorem evalEntries_cons (ctx : Ctx) (k v : Expr) (rest : List (Expr × Expr)) (acc : MapV) :
    evalEntries ctx ((k, v) :: rest) acc = (do
      let kv ← eval ctx k
      match kv.toKey? with
      | none => M.throw .badKey
      | some key => do
        let vv ← eval ctx v
        evalEntries ctx rest (MapV.insert acc key vv)) := by
  rfl

theorem loopG_nil (iv av : String) (evCond evStep : Scope → EvalM Value) (sc : Scope) :
    loopG iv av evCond evStep [] sc = pure sc := by
  rw [loopG]

theorem loopG_cons (iv av : String) (evCond evStep : Scope → EvalM Value) (item : Value)
    (rest : List Value) (sc : Scope) :
    loopG iv av evCond evStep (item :: rest) sc = (do
      let c ← evCond sc
      if !c.truthy then pure sc
      else do
        let acc ← evStep (Ctx.scopeInsert sc iv item)
        loopG iv av evCond evStep rest
          (Ctx.scopeInsert (Ctx.scopeInsert sc iv item) av acc)) := by
  rw [loopG]

theorem runAll_nil : runAll [] = pure [] := by
  rw [runAll]

theorem runAll_cons (t : EvalM Value) (ts : List (EvalM Value)) :
    runAll (t :: ts) = (do let v ← t; let vs ← runAll ts; pure (v :: vs)) := by
  rw [runAll]

/-! The four consuming extractors of `extract` differ only in the error for a missing thunk and in
the conversion, the two receiver-bound ones only in the conversion. -/

def fetch (thunks : List (EvalM Value)) (e : ErrC) (conv : Value → Outcome Value) (idx : Nat) :
    EvalM (Value × Nat) :=
  match thunks[idx]? with
  | none => M.throw e
  | some th => do let a ← th; let v ← M.lift (conv a); pure (v, idx + 1)

def recv (conv : Value → Outcome Value) (tv : Value) (idx : Nat) : EvalM (Value × Nat) := do
  let v ← M.lift (conv tv)
  pure (v, idx)

def fromThis (this : Option Value) (thunks : List (EvalM Value)) (conv : Value → Outcome Value)
    (idx : Nat) : EvalM (Value × Nat) :=
  match this with
  | some tv => recv conv tv idx
  | none => fetch thunks .missingTarget conv idx

def extractOne (this : Option Value) (thunks : List (EvalM Value)) (argEs : List Expr) :
    Extractor → Nat → EvalM (Value × Nat)
  | .this t, idx => fromThis this thunks (fromValue t) idx
  | .thisOpt t, idx => fromThis this thunks (fromValueOpt t) idx
  | .pos t, idx => fetch thunks .badArgc (fromValue t) idx
  | .posOpt t, idx => fetch thunks .badArgc (fromValueOpt t) idx
  | .allArgs, idx => do let vs ← runAll thunks; pure (Value.list vs, idx)
  | .ident, idx =>
    match argEs[idx]? with
    | none => M.throw .badArgc
    | some (.ident n) => pure (Value.str n.toList, idx + 1)
    | some _ => M.throw .badType
  | .expr, idx =>
    match argEs[idx]? with
    | none => M.throw .badArgc
    | some _ => pure (Value.str "<expr>".toList, idx + 1)

theorem extractOne_this_some (tv : Value) (thunks : List (EvalM Value)) (argEs : List Expr)
    (t : ExtTy) (idx : Nat) :
    extractOne (some tv) thunks argEs (.this t) idx = recv (fromValue t) tv idx := rfl

theorem extractOne_this_none (thunks : List (EvalM Value)) (argEs : List Expr) (t : ExtTy)
    (idx : Nat) :
    extractOne none thunks argEs (.this t) idx = fetch thunks .missingTarget (fromValue t) idx :=
  rfl

theorem extract_nil (this : Option Value) (thunks : List (EvalM Value)) (argEs : List Expr)
    (idx : Nat) : extract this thunks argEs [] idx = pure [] := by
  rw [extract]

theorem extract_cons (this : Option Value) (thunks : List (EvalM Value)) (argEs : List Expr)
    (ex : Extractor) (rest : List Extractor) (idx : Nat) :
    extract this thunks argEs (ex :: rest) idx = (do
      let p ← extractOne this thunks argEs ex idx
      let vs ← extract this thunks argEs rest p.2
      pure (p.1 :: vs)) := by
  cases ex
  all_goals rfl

theorem applyFn_builtin (ctx : Ctx) (name : String) (b : Builtin) (this : Option Value)
    (thunks : List (EvalM Value)) (argEs : List Expr) :
    applyFn ctx name (.builtin b) this thunks argEs = (do
      let ps ← extract this thunks argEs b.sig 0
      M.lift (applyBuiltin ctx b ps)) := rfl

def hostResult (body : HostBody) (ps : List Value) : EvalM Value :=
  match body with
  | .echo => pure (.list ps)
  | .fail => M.throw .functionError
  | .const v => pure v
  | .first => pure (ps.head?.getD .null)

theorem applyFn_host (ctx : Ctx) (name : String) (sig : List Extractor) (body : HostBody)
    (this : Option Value) (thunks : List (EvalM Value)) (argEs : List Expr) :
    applyFn ctx name (.host sig body) this thunks argEs = (do
      let ps ← extract this thunks argEs sig 0
      M.logCall { name := name, args := ps }
      hostResult body ps) := rfl

/-! C20's statements use `sigOf` under the name `Cel.Props.C20.sigOf`; it stands here because
`applyFn_eq` needs it. -/
namespace Props.C20

def sigOf : FnKind → List Extractor
  | .builtin b => b.sig
  | .host sig _ => sig

end Props.C20

def fnFinish (ctx : Ctx) (name : String) : FnKind → List Value → EvalM Value
  | .builtin b, ps => M.lift (applyBuiltin ctx b ps)
  | .host _ body, ps => do
    M.logCall { name := name, args := ps }
    hostResult body ps

open Props.C20 in
theorem applyFn_eq (ctx : Ctx) (name : String) (k : FnKind) (this : Option Value)
    (thunks : List (EvalM Value)) (argEs : List Expr) :
    applyFn ctx name k this thunks argEs =
      extract this thunks argEs (sigOf k) 0 >>= fnFinish ctx name k := by
  cases k <;> rfl

/-- the local `fnCall` of `callNode` (`let fnCall := match …`): the function-call fallback -/
def fnCall (ctx : Ctx) (f : String) (target : Option (EvalM Value)) (argEs : List Expr)
    (thunks : List (EvalM Value)) : EvalM Value :=
  match ctx.getFunction f with
  | none => M.throw (.undeclared f)
  | some k =>
    match target with
    | none => applyFn ctx f k none thunks argEs
    | some t => do
      let tv ← t
      applyFn ctx f k (some tv) thunks argEs

/-- the function registry is consulted for the name `f` used with `n` arguments: `f` is no operator
of that arity -/
def ReachesFn (f : String) (n : Nat) : Prop :=
  (n = 3 → (f == condName) = false) ∧ (n = 2 → binOpOfName f = none) ∧
    (n = 1 → unOpOfName f = none)

/-- from the arity-by-arity spelling of C07's statements -/
theorem ReachesFn.of_arity {f : String} {n : Nat}
    (hop : n = 0 ∨ n ≥ 4 ∨ (n = 3 ∧ (f == condName) = false) ∨
      (n = 2 ∧ binOpOfName f = none) ∨ (n = 1 ∧ unOpOfName f = none)) : ReachesFn f n := by
  refine ⟨fun h => ?_, fun h => ?_, fun h => ?_⟩
  -- at a given arity the hypothesis reduces to the disjunct for that arity
  all_goals
    subst h
    simpa using hop

/-- from "no operator at all", the spelling of C20's statement -/
theorem ReachesFn.of_never {f : String}
    (hop : (f == condName) = false ∧ binOpOfName f = none ∧ unOpOfName f = none) {n : Nat} :
    ReachesFn f n :=
  ⟨fun _ => hop.1, fun _ => hop.2.1, fun _ => hop.2.2⟩

/-! core states these as `l = [l[0], l[1]]` (`List.eq_getElem_of_length_eq_two`, `_three`), which cannot
be substituted for `l`; the users destructure with `obtain ⟨x, y, rfl⟩`. -/

theorem _root_.List.eq_of_length_eq_two {α : Type} {l : List α} (h : l.length = 2) :
    ∃ x y, l = [x, y] := by
  match l, h with
  | [x, y], _ => exact ⟨x, y, rfl⟩

theorem _root_.List.eq_of_length_eq_three {α : Type} {l : List α} (h : l.length = 3) :
    ∃ x y z, l = [x, y, z] := by
  match l, h with
  | [x, y, z], _ => exact ⟨x, y, z, rfl⟩

/-- the dispatch of a call node taken apart for an arbitrary name, in the order of `callNode`; the
function call is reached only when the name is no operator of that arity (`ReachesFn`) -/
theorem callNode_cases {motive : EvalM Value → Prop} (ctx : Ctx) (f : String)
    (target : Option (EvalM Value)) (argEs : List Expr) (thunks : List (EvalM Value))
    (cond : ∀ c a b, thunks = [c, a, b] → (f == condName) = true →
      motive (do let cv ← c; if cv.truthy then a else b))
    (or : ∀ a b, thunks = [a, b] → binOpOfName f = some .or →
      motive (do let l ← a; if l.truthy then pure l else b))
    (and : ∀ a b, thunks = [a, b] → binOpOfName f = some .and → motive (do
      let l ← a
      if !l.truthy then pure (.bool false) else do let r ← b; pure (.bool r.truthy)))
    (bin : ∀ op a b, thunks = [a, b] → binOpOfName f = some op → op ≠ .and ∧ op ≠ .or →
      motive (do let l ← a; let r ← b; M.lift (applyBin op l r)))
    (un : ∀ op a, thunks = [a] → unOpOfName f = some op →
      motive (do let v ← a; M.lift (applyUn op v)))
    (fn : ReachesFn f thunks.length → motive (fnCall ctx f target argEs thunks)) :
    motive (callNode ctx f target argEs thunks) := by
  fun_cases callNode ctx f target argEs thunks
  case case1 c a b hc => exact cond c a b rfl hc
  case case2 c a b hne _ => exact fn ⟨fun _ => Bool.eq_false_iff.2 hne, nofun, nofun⟩
  case case3 a b h => exact or a b rfl h
  case case4 a b h => exact and a b rfl h
  case case5 a b op hor hand h => exact bin op a b rfl h ⟨hand, hor⟩
  case case6 a b hnone _ => exact fn ⟨nofun, fun _ => hnone, nofun⟩
  case case7 a op h => exact un op a rfl h
  case case8 a hnone _ => exact fn ⟨nofun, nofun, fun _ => hnone⟩
  case case9 _ h3 h2 h1 =>
    -- `thunks` is none of `[c, a, b]`, `[a, b]`, `[a]`
    refine fn ⟨fun h => ?_, fun h => ?_, fun h => ?_⟩
    · obtain ⟨c, a, b, rfl⟩ := List.eq_of_length_eq_three h
      exact absurd rfl (h3 c a b)
    · obtain ⟨a, b, rfl⟩ := List.eq_of_length_eq_two h
      exact absurd rfl (h2 a b)
    · obtain ⟨a, rfl⟩ := List.length_eq_one_iff.1 h
      exact absurd rfl (h1 a)

theorem callNode_fn (ctx : Ctx) (f : String) (target : Option (EvalM Value)) (argEs : List Expr)
    {thunks : List (EvalM Value)} (h : ReachesFn f thunks.length) :
    callNode ctx f target argEs thunks = fnCall ctx f target argEs thunks := by
  apply callNode_cases (motive := (· = fnCall ctx f target argEs thunks))
  case cond =>
    rintro c a b rfl hc
    rw [h.1 rfl] at hc
    cases hc
  case or =>
    rintro a b rfl hf
    rw [h.2.1 rfl] at hf
    cases hf
  case and =>
    rintro a b rfl hf
    rw [h.2.1 rfl] at hf
    cases hf
  case bin =>
    rintro op a b rfl hf -
    rw [h.2.1 rfl] at hf
    cases hf
  case un =>
    rintro op a rfl hf
    rw [h.2.2 rfl] at hf
    cases hf
  case fn => exact fun _ => rfl

theorem callNode_cond (ctx : Ctx) (target : Option (EvalM Value)) (argEs : List Expr)
    (c a b : EvalM Value) :
    callNode ctx condName target argEs [c, a, b] = (do
      let cv ← c
      if cv.truthy then a else b) := by
  unfold callNode
  simp only [beq_self_eq_true, if_true]

theorem callNode_bin (ctx : Ctx) (f : String) (op : BinOp) (target : Option (EvalM Value))
    {argEs : List Expr} {a b : EvalM Value} (hf : binOpOfName f = some op)
    (hop : op ≠ .and ∧ op ≠ .or) :
    callNode ctx f target argEs [a, b] = (do
      let l ← a
      let r ← b
      M.lift (applyBin op l r)) := by
  unfold callNode
  simp only [hf]
  cases op
  case and => exact absurd rfl hop.1
  case or => exact absurd rfl hop.2
  all_goals rfl

theorem callNode_and (ctx : Ctx) (f : String) (target : Option (EvalM Value))
    {argEs : List Expr} {a b : EvalM Value} (hf : binOpOfName f = some .and) :
    callNode ctx f target argEs [a, b] = (do
      let l ← a
      if !l.truthy then pure (.bool false)
      else do
        let r ← b
        pure (.bool r.truthy)) := by
  unfold callNode
  simp only [hf]

theorem callNode_or (ctx : Ctx) (f : String) (target : Option (EvalM Value))
    {argEs : List Expr} {a b : EvalM Value} (hf : binOpOfName f = some .or) :
    callNode ctx f target argEs [a, b] = (do
      let l ← a
      if l.truthy then pure l else b) := by
  unfold callNode
  simp only [hf]

theorem callNode_un (ctx : Ctx) (f : String) (op : UnOp) (target : Option (EvalM Value))
    {argEs : List Expr} {a : EvalM Value} (hf : unOpOfName f = some op) :
    callNode ctx f target argEs [a] = (do
      let v ← a
      M.lift (applyUn op v)) := by
  unfold callNode
  simp only [hf]

theorem binOpOfName_name (op : BinOp) : binOpOfName op.name = some op := by
  cases op <;> simp [BinOp.name, binOpOfName]

theorem unOpOfName_name (op : UnOp) : unOpOfName op.name = some op := by
  cases op <;> rfl

theorem eval_and (ctx : Ctx) (a b : Expr) :
    eval ctx (.call "_&&_" [a, b]) = (do
      M.tick
      let l ← eval ctx a
      if !l.truthy then pure (.bool false)
      else do
        let r ← eval ctx b
        pure (.bool r.truthy)) := by
  rw [eval_call, evalThunks_two, callNode_and ctx "_&&_" none (binOpOfName_name .and)]

theorem eval_or (ctx : Ctx) (a b : Expr) :
    eval ctx (.call "_||_" [a, b]) = (do
      M.tick
      let l ← eval ctx a
      if l.truthy then pure l else eval ctx b) := by
  rw [eval_call, evalThunks_two, callNode_or ctx "_||_" none (binOpOfName_name .or)]

theorem eval_cond (ctx : Ctx) (c x y : Expr) :
    eval ctx (.call "_?_:_" [c, x, y]) = (do
      M.tick
      let cv ← eval ctx c
      if cv.truthy then eval ctx x else eval ctx y) := by
  rw [eval_call, evalThunks_three]
  show (M.tick >>= fun _ => callNode ctx condName none _ _) = _
  rw [callNode_cond]

end Cel
