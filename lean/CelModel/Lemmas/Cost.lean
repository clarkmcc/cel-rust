import CelModel.Lemmas.Closed
/-!
# Two counting calculi for the evaluation monad

`Cost m n`: from every state `m` advances the step counter by at most `n`, whatever the outcome.
`LogB m k`: the step counter never decreases, and the host-call log grows by at most the growth of
the step counter plus `k`.  `LogB` is a closed family (`Lemmas/Closed.lean`); `Cost` is not: its
bound adds up along `>>=` and depends on the program.
-/
namespace Cel

def Cost (m : M β α) (n : Nat) : Prop := ∀ s, (m s).2.steps ≤ s.steps + n

namespace Cost

theorem pure {a : α} {n : Nat} : Cost (Pure.pure a : M β α) n := fun _ => Nat.le_add_right _ _

theorem throw {e : ErrC} {n : Nat} : Cost (M.throw e : M β α) n := fun _ => Nat.le_add_right _ _

theorem lift {o : Outcome α} {n : Nat} : Cost (M.lift o : M β α) n := fun _ => Nat.le_add_right _ _

theorem logCall {c : Call β} {n : Nat} : Cost (M.logCall c : M β Unit) n :=
  fun _ => Nat.le_add_right _ _

theorem tick {n : Nat} (h : 1 ≤ n) : Cost (M.tick : M β Unit) n := by
  intro s
  show s.steps + 1 ≤ s.steps + n
  omega

theorem weaken {m : M β α} {a n : Nat} (h : Cost m a) (hle : a ≤ n) : Cost m n := by
  intro s
  have := h s
  omega

theorem bind_ret {m : M β α} {f : α → M β γ} {a b n : Nat} (hm : Cost m a)
    (hf : ∀ x, Ret m x → Cost (f x) b) (h : a + b ≤ n) : Cost (m >>= f) n := by
  intro s
  have h1 := hm s
  rw [M.bind_apply]
  cases hms : m s with
  | mk o s' =>
    rw [hms] at h1
    cases o with
    | ok x =>
      have h2 := hf x ⟨s, s', hms⟩ s'
      dsimp only at h1 h2 ⊢
      omega
    | err e => dsimp only at h1 ⊢; omega
    | panic p => dsimp only at h1 ⊢; omega

theorem bind {m : M β α} {f : α → M β γ} {a b n : Nat} (hm : Cost m a)
    (hf : ∀ x, Cost (f x) b) (h : a + b ≤ n) : Cost (m >>= f) n :=
  bind_ret hm (fun x _ => hf x) h

theorem bind_free {m : M β α} {f : α → M β γ} {n : Nat} (hm : Cost m n)
    (hf : ∀ x, Cost (f x) 0) : Cost (m >>= f) n :=
  bind hm hf (Nat.le_refl _)

theorem tick_bind {f : Unit → M β γ} {b n : Nat} (h : Cost (f ()) b) (hle : 1 + b ≤ n) :
    Cost (M.tick >>= f) n :=
  bind (tick (Nat.le_refl 1)) (fun _ => h) hle

end Cost

def LogB (m : M β α) (k : Nat) : Prop :=
  ∀ s, s.steps ≤ (m s).2.steps ∧
    (m s).2.log.length + s.steps ≤ (m s).2.steps + s.log.length + k

namespace LogB

theorem lift {o : Outcome α} {k : Nat} : LogB (M.lift o : M β α) k := by
  intro s
  show s.steps ≤ s.steps ∧ s.log.length + s.steps ≤ s.steps + s.log.length + k
  omega

theorem tick {k : Nat} : LogB (M.tick : M β Unit) k := by
  intro s
  show s.steps ≤ s.steps + 1 ∧ s.log.length + s.steps ≤ s.steps + 1 + s.log.length + k
  omega

theorem logCall {c : Call β} {k : Nat} (h : 1 ≤ k) : LogB (M.logCall c : M β Unit) k := by
  intro s
  show s.steps ≤ s.steps ∧ (s.log ++ [c]).length + s.steps ≤ s.steps + s.log.length + k
  rw [List.length_append, List.length_singleton]
  omega

theorem weaken {m : M β α} {a k : Nat} (h : LogB m a) (hle : a ≤ k) : LogB m k := by
  intro s
  have := h s
  omega

theorem bind_ret {m : M β α} {f : α → M β γ} {a b k : Nat} (hm : LogB m a)
    (hf : ∀ x, Ret m x → LogB (f x) b) (h : a + b ≤ k) : LogB (m >>= f) k := by
  intro s
  have h1 := hm s
  rw [M.bind_apply]
  cases hms : m s with
  | mk o s' =>
    rw [hms] at h1
    cases o with
    | ok x =>
      have h2 := hf x ⟨s, s', hms⟩ s'
      dsimp only at h1 h2 ⊢
      omega
    | err e => dsimp only at h1 ⊢; omega
    | panic p => dsimp only at h1 ⊢; omega

/-- the tick at the head of a call node pays for the one host call the node may log -/
theorem tick_bind {f : Unit → M β γ} {k : Nat} (h : LogB (f ()) (k + 1)) :
    LogB (M.tick >>= f) k := by
  intro s
  rw [M.tick_bind]
  have h2 := h (tickSt s)
  have e1 : (tickSt s).steps = s.steps + 1 := rfl
  have e2 : (tickSt s).log = s.log := rfl
  rw [e1, e2] at h2
  omega

theorem closed : Closed (fun k {_} m => LogB m k) (fun _ => True) where
  pure _ := lift
  throw _ := lift
  up h := h.weaken (Nat.le_succ _)
  bind hm hf := bind_ret hm hf (Nat.le_of_eq (Nat.zero_add _))
  tick h := tick_bind h
  logCall _ _ h :=
    bind_ret (logCall (Nat.le_refl 1)) (fun _ _ => h) (Nat.le_of_eq (Nat.add_comm ..))

end LogB

/-! the bounds of the thunks from an index on, summed: what `extract` may still spend
(`Props/C07Cost.lean`) -/

theorem sum_drop (costs : List Nat) (idx : Nat) :
    costs[idx]?.getD 0 + (costs.drop (idx + 1)).sum = (costs.drop idx).sum := by
  induction costs generalizing idx with
  | nil => simp
  | cons c cs ih =>
    cases idx with
    | zero => simp
    | succ i => simpa using ih i

theorem sum_drop_succ_le (costs : List Nat) (idx : Nat) :
    (costs.drop (idx + 1)).sum ≤ (costs.drop idx).sum := by
  have := sum_drop costs idx
  omega

end Cel
