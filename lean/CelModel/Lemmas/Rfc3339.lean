import CelModel.Lemmas.DurLemmas
import CelModel.Lemmas.Civil
/-!
# RFC 3339 text: `parse` reads back, field by field, what `format` prints

The result is `parse_render`, about a text given by its fields; `FracOK` is its hypothesis on the
fraction.
-/
namespace Cel.Time.Rfc
open Cel.Lemmas

theorem pad_length (w n : Nat) (hw : 0 < w) (h : n < 10 ^ w) : (pad w n).length = w := by
  have := (DecText.natToDec_length_le n w hw).2 h
  simp only [pad, List.length_append, List.length_replicate]
  omega

theorem pad_digits (w n : Nat) : ∀ c ∈ pad w n, Dur.isDigit c = true := by
  intro c hc
  rcases List.mem_append.1 hc with h | h
  · rw [(List.mem_replicate.1 h).2]
    rfl
  · exact DecText.natToDec_isDigit n c h

theorem digitsToNat_pad (w n : Nat) : Dur.digitsToNat (pad w n) = n := by
  simp only [pad, Dur.digitsToNat_append, Dur.digitsToNat_zeros, Dur.digitsToNat_natToDec]
  omega

theorem pad_ne_nil (w n : Nat) : pad w n ≠ [] := by
  simp [pad, DecText.natToDec_ne_nil]

theorem takeN_digits (ds rest : Str) (h : ∀ c ∈ ds, Dur.isDigit c = true) :
    takeN ds.length (ds ++ rest) = some (Dur.digitsToNat ds, rest) := by
  have hall : ds.all Time.isDigit = true := List.all_eq_true.2 h
  simp only [takeN, List.take_left', List.drop_left', hall, beq_self_eq_true, Bool.and_self, if_true]

theorem takeN_pad (w n : Nat) (rest : Str) (hw : 0 < w) (h : n < 10 ^ w) :
    takeN w (pad w n ++ rest) = some (n, rest) := by
  have := takeN_digits (pad w n) rest (pad_digits w n)
  rwa [pad_length w n hw h, digitsToNat_pad] at this

theorem takeDigits_pad (k n : Nat) (c : Char) (rest : Str) (hc : Dur.isDigit c = false) :
    Dur.takeDigits (pad k n ++ c :: rest) = (pad k n, c :: rest) :=
  DecText.takeDigits_append (pad k n) (c :: rest) (pad_digits k n) (Dur.noDigitHead_cons hc)

/-- a fraction of at most nine digits, re-read as nanoseconds -/
theorem digitsToNat_take9 (ds : Str) (h : ds.length ≤ 9) :
    Dur.digitsToNat ((ds ++ List.replicate 9 '0').take 9) = Dur.digitsToNat ds * 10 ^ (9 - ds.length) := by
  have : (ds ++ List.replicate 9 '0').take 9 = ds ++ List.replicate (9 - ds.length) '0' := by
    rw [List.take_append, List.take_of_length_le h, List.take_replicate, Nat.min_eq_left (by omega)]
  rw [this, Dur.digitsToNat_append, Dur.digitsToNat_zeros, List.length_replicate, Nat.add_zero]

/-! `parse` is a `do` block with join points, which `simp` copies into every branch of a `match`
it cannot decide.  So it is consumed from the head: the readers are in continuation form and used
as pre-lemmas (`↓`), and no continuation is visited before it is applied. -/

theorem takeN_pad_bind (β : Type) (w n : Nat) (hw : 0 < w) (h : n < 10 ^ w) (rest : Str)
    (K : Nat × Str → Option β) : (takeN w (pad w n ++ rest) >>= K) = K (n, rest) := by
  rw [takeN_pad w n rest hw h]
  rfl

theorem expect_bind {β : Type} (c : Char) (rest : Str) (K : Str → Option β) :
    (expect c (c :: rest) >>= K) = K rest := by
  simp [expect]

theorem some_bind {α β : Type} (a : α) (K : α → Option β) : (some a >>= K) = K a := rfl

/-- what `format` may print for the fraction, with the nanoseconds it denotes -/
def FracOK (frac : Str) (nanos : Nat) : Prop :=
  (frac = [] ∧ nanos = 0) ∨
    ∃ k n, 0 < k ∧ k ≤ 9 ∧ n < 10 ^ k ∧ frac = '.' :: pad k n ∧ nanos = n * 10 ^ (9 - k)

/-- `neg` is a proposition so that at `neg := offset < 0` the text is syntactically what
`Time.format` prints -/
theorem parse_render (Y M D h mi s nanos : Nat) (frac : Str) (neg : Prop) [Decidable neg]
    (oh om : Nat) (off : Int)
    (hY : Y < 10000) (hM1 : 1 ≤ M) (hM : M ≤ 12) (hD1 : 1 ≤ D) (hD : D ≤ daysInMonth Y M)
    (hh : h ≤ 23) (hmi : mi ≤ 59) (hs : s ≤ 59) (hoh : oh < 24) (hom : om < 60)
    (hfrac : FracOK frac nanos)
    (hoff : off = if neg then -((oh * 3600 + om * 60 : Nat) : Int) else ((oh * 3600 + om * 60 : Nat) : Int)) :
    parse (pad 4 Y ++ '-' :: (pad 2 M ++ '-' :: (pad 2 D ++ 'T' :: (pad 2 h ++ ':' :: (pad 2 mi ++
      ':' :: (pad 2 s ++ (frac ++ (if neg then '-' else '+') :: (pad 2 oh ++ ':' :: pad 2 om))))))))
    = some (daysFromCivil Y M D * nsPerDay + ((h * 3600 + mi * 60 + s : Nat) : Int) * nsPerSec
          + nanos - off * nsPerSec, off) := by
  have hD31 : D ≤ 31 := Nat.le_trans hD (daysInMonth_le Y M)
  have hM0 : M ≠ 0 := by omega
  have hD0 : D ≠ 0 := by omega
  have rY := takeN_pad_bind (Int × Int) 4 Y (by decide) hY
  have rM := takeN_pad_bind (Int × Int) 2 M (by decide) (by omega)
  have rD := takeN_pad_bind (Int × Int) 2 D (by decide) (by omega)
  have rh := takeN_pad_bind (Int × Int) 2 h (by decide) (by omega)
  have rmi := takeN_pad_bind (Int × Int) 2 mi (by decide) (by omega)
  have rs := takeN_pad_bind (Int × Int) 2 s (by decide) (by omega)
  have roh := takeN_pad_bind (Int × Int) 2 oh (by decide) (by omega)
  have rom := takeN_pad 2 om [] (by decide) (by omega)
  rw [List.append_nil] at rom
  subst hoff
  -- four runs of the parser, one for each shape of the text; its offset test falls to `hom hoh`,
  -- its final range test to `hM0 hM hD0 hD hh hmi hs`
  rcases hfrac with ⟨rfl, rfl⟩ | ⟨k, n, hk, hk9, hn, rfl, rfl⟩
  · by_cases hneg : neg
    all_goals simp [parse, ↓expect_bind, ↓some_bind, ↓rY, ↓rM, ↓rD, ↓rh, ↓rmi, ↓rs, ↓roh, rom, hneg,
      hom, hoh, hM0, hM, hD0, hD, hh, hmi, hs]
  · have hre : Dur.digitsToNat ((pad k n ++ ['0', '0', '0', '0', '0', '0', '0', '0', '0']).take 9)
        = n * 10 ^ (9 - k) := by
      have := digitsToNat_take9 (pad k n) (by rw [pad_length k n hk hn]; exact hk9)
      rwa [pad_length k n hk hn, digitsToNat_pad] at this
    by_cases hneg : neg
    all_goals simp [parse, ↓expect_bind, ↓some_bind, ↓rY, ↓rM, ↓rD, ↓rh, ↓rmi, ↓rs, ↓roh, rom, hneg,
      takeDigits_pad, Dur.isDigit, pad_ne_nil, hre, Int.natCast_mul, Int.natCast_pow,
      hom, hoh, hM0, hM, hD0, hD, hh, hmi, hs]

end Cel.Time.Rfc
