import CelModel.Eval
/-!
# Value-level operations have plain outcomes

An outcome is *plain* when it is a value or an execution error other than "undeclared
reference": never a panic.  Every operator and built-in on values is plain, which is what C02 and
C19 both need from them (`Outcome.plain.isPanic`, `Outcome.plain.isUndecl`).
-/
namespace Cel

def ErrC.isUndecl : ErrC → Bool
  | .undeclared _ => true
  | _ => false

def Outcome.isUndecl : Outcome α → Bool
  | .err e => e.isUndecl
  | _ => false

def Outcome.plain : Outcome α → Bool
  | .ok _ => true
  | .err e => !e.isUndecl
  | .panic _ => false

theorem Outcome.map_isPanic (f : α → β) (o : Outcome α) : (o.map f).isPanic = o.isPanic := by
  cases o <;> rfl

theorem Outcome.map_isUndecl (f : α → β) (o : Outcome α) : (o.map f).isUndecl = o.isUndecl := by
  cases o <;> rfl

theorem Outcome.plain.isPanic {o : Outcome α} (h : o.plain = true) : o.isPanic = false := by
  cases o with
  | ok _ => rfl
  | err _ => rfl
  | panic _ => cases h

theorem Outcome.plain.isUndecl {o : Outcome α} (h : o.plain = true) : o.isUndecl = false := by
  cases o with
  | ok _ => rfl
  | err e => simpa [Outcome.plain, Outcome.isUndecl] using h
  | panic _ => rfl

/-! C02's statements use `tyOk`, `ExtOk`, `MatchesSig` under the names `Cel.Props.C02.…`; they stand
here because the traversal of `Lemmas/Closed.lean` needs them. -/
namespace Props.C02

/-- what `FromValue for T` guarantees about the value it returns -/
def tyOk : ExtTy → Value → Bool
  | .value, _ => true
  | .int, .int _ => true
  | .uint, .uint _ => true
  | .dbl, .dbl _ => true
  | .str, .str _ => true
  | .bytes, .bytes _ => true
  | .bool, .bool _ => true
  | .list, .list _ => true
  | .dur, .dur _ => true
  | .ts, .ts _ _ => true
  | _, _ => false

theorem tyOk_str {v : Value} (h : tyOk .str v = true) : ∃ s, v = .str s := by
  cases v <;> simp [tyOk] at h
  exact ⟨_, rfl⟩

theorem tyOk_ts {v : Value} (h : tyOk .ts v = true) : ∃ t o, v = .ts t o := by
  cases v <;> simp [tyOk] at h
  exact ⟨_, _, rfl⟩

theorem fromValue_sound (t : ExtTy) {v w : Value} (h : fromValue t v = .ok w) :
    tyOk t w = true := by
  revert h
  fun_cases fromValue t v
  all_goals intro h
  all_goals cases h
  all_goals rfl

theorem fromValueOpt_sound (t : ExtTy) {v w : Value} (h : fromValueOpt t v = .ok w) :
    w = .null ∨ tyOk t w = true := by
  unfold fromValueOpt at h
  split at h
  · left
    cases h
    rfl
  · right
    exact fromValue_sound t h

def ExtOk : Extractor → Value → Prop
  | .this t, v => tyOk t v = true
  | .thisOpt t, v => v = .null ∨ tyOk t v = true
  | .pos t, v => tyOk t v = true
  | .posOpt t, v => v = .null ∨ tyOk t v = true
  | .allArgs, v => ∃ vs, v = .list vs
  | .ident, v => ∃ s, v = .str s
  | .expr, v => ∃ s, v = .str s

def MatchesSig : List Extractor → List Value → Prop
  | [], [] => True
  | ex :: sig, p :: ps => ExtOk ex p ∧ MatchesSig sig ps
  | _, _ => False

theorem matchesSig_one {ex : Extractor} {ps : List Value} (h : MatchesSig [ex] ps) :
    ∃ p, ps = [p] ∧ ExtOk ex p := by
  match ps, h with
  | [p], h => exact ⟨p, rfl, h.1⟩
  | _ :: _ :: _, h => exact h.2.elim

theorem matchesSig_two {e1 e2 : Extractor} {ps : List Value} (h : MatchesSig [e1, e2] ps) :
    ∃ p q, ps = [p, q] ∧ ExtOk e1 p ∧ ExtOk e2 q := by
  match ps, h with
  | [_], h => exact h.2.elim
  | [p, q], h => exact ⟨p, q, rfl, h.1, h.2.1⟩
  | _ :: _ :: _ :: _, h => exact h.2.2.elim

end Props.C02

namespace Plain
open Props.C02

theorem map {f : α → β} {o : Outcome α} : (o.map f).plain = o.plain := by
  cases o <;> rfl

theorem intArith {op : ArithOp} {a b : Int} : (intArith op a b).plain = true := by
  fun_cases Cel.intArith op a b
  all_goals rfl

theorem uintArith {op : ArithOp} {a b : Int} : (uintArith op a b).plain = true := by
  fun_cases Cel.uintArith op a b
  all_goals rfl

theorem arith (op : ArithOp) (a b : Value) : (arith op a b).plain = true := by
  fun_cases Cel.arith op a b  -- cases 1, 2: the int/int and the uint/uint clause
  case case1 => exact Plain.map.trans Plain.intArith
  case case2 => exact Plain.map.trans Plain.uintArith
  -- doubles, strings, lists, durations, timestamps: an immediate value or error
  all_goals rfl

theorem relOp {op : BinOp} {a b : Value} : (relOp op a b).plain = true := by
  fun_cases Cel.relOp op a b
  all_goals rfl

theorem inOp {a b : Value} : (inOp a b).plain = true := by
  fun_cases Cel.inOp a b
  all_goals rfl

theorem indexOp {a b : Value} : (indexOp a b).plain = true := by
  fun_cases Cel.indexOp a b
  all_goals rfl

theorem applyBin (op : BinOp) (a b : Value) : (applyBin op a b).plain = true := by
  cases op <;> simp only [Cel.applyBin]
  case add | sub | mul | div | rem => exact Plain.arith _ _ _
  case lt | le | gt | ge => exact Plain.relOp
  case in_ => exact Plain.inOp
  case index => exact Plain.indexOp
  -- `==`, `!=` and the value forms of `||`, `&&` always return
  all_goals rfl

theorem applyUn (op : UnOp) (v : Value) : (applyUn op v).plain = true := by
  fun_cases Cel.applyUn op v  -- case 2: `-` on an int
  case case2 i =>
    rw [Plain.map]
    fun_cases Cel.intNeg i
    all_goals rfl
  all_goals rfl

theorem sizeFn (v : Value) : (sizeFn v).plain = true := by
  cases v <;> rfl

theorem containsFn (t a : Value) : (containsFn t a).plain = true := by
  fun_cases Cel.containsFn t a
  all_goals rfl

theorem stringFn (v : Value) : (stringFn v).plain = true := by
  cases v <;> rfl

theorem doubleFn (v : Value) : (doubleFn v).plain = true := by
  fun_cases Cel.doubleFn v
  all_goals rfl

theorem uintFn (v : Value) : (uintFn v).plain = true := by
  fun_cases Cel.uintFn v
  all_goals rfl

theorem intFn (v : Value) : (intFn v).plain = true := by
  fun_cases Cel.intFn v
  all_goals rfl

theorem extremumFold (g : Bool) (acc : Value) (xs : List Value) :
    (extremumFold g acc xs).plain = true := by
  fun_induction Cel.extremumFold g acc xs  -- case 3: the next element is comparable
  case case3 ih => exact ih
  all_goals rfl

theorem extremumFn (g : Bool) (args : List Value) : (extremumFn g args).plain = true := by
  fun_cases Cel.extremumFn g args  -- case 4: there is a first item to fold from
  case case4 => exact Plain.extremumFold ..
  -- a single non-list argument is returned; no item at all gives `null`
  all_goals rfl

/-- the shape of the parameter list is what rules out the arity panic -/
theorem applyBuiltin (ctx : Ctx) (b : Builtin) (ps : List Value) (h : MatchesSig b.sig ps) :
    (applyBuiltin ctx b ps).plain = true := by
  cases b <;> simp only [Builtin.sig] at h
  case contains =>
    obtain ⟨p, q, rfl, -, -⟩ := matchesSig_two h
    exact Plain.containsFn p q
  case size =>
    obtain ⟨p, rfl, -⟩ := matchesSig_one h
    exact Plain.sizeFn p
  case max =>
    obtain ⟨p, rfl, ⟨vs, rfl⟩⟩ := matchesSig_one h
    exact Plain.extremumFn true vs
  case min =>
    obtain ⟨p, rfl, ⟨vs, rfl⟩⟩ := matchesSig_one h
    exact Plain.extremumFn false vs
  case startsWith =>
    obtain ⟨p, q, rfl, hp, hq⟩ := matchesSig_two h
    obtain ⟨s, rfl⟩ := tyOk_str hp
    obtain ⟨t, rfl⟩ := tyOk_str hq
    rfl
  case endsWith =>
    obtain ⟨p, q, rfl, hp, hq⟩ := matchesSig_two h
    obtain ⟨s, rfl⟩ := tyOk_str hp
    obtain ⟨t, rfl⟩ := tyOk_str hq
    rfl
  case string =>
    obtain ⟨p, rfl, -⟩ := matchesSig_one h
    exact Plain.stringFn p
  case bytes =>
    obtain ⟨p, rfl, hp⟩ := matchesSig_one h
    obtain ⟨s, rfl⟩ := tyOk_str hp
    rfl
  case double =>
    obtain ⟨p, rfl, -⟩ := matchesSig_one h
    exact Plain.doubleFn p
  case int =>
    obtain ⟨p, rfl, -⟩ := matchesSig_one h
    exact Plain.intFn p
  case uint =>
    obtain ⟨p, rfl, -⟩ := matchesSig_one h
    exact Plain.uintFn p
  case «matches» =>
    obtain ⟨p, q, rfl, hp, hq⟩ := matchesSig_two h
    obtain ⟨s, rfl⟩ := tyOk_str hp
    obtain ⟨t, rfl⟩ := tyOk_str hq
    simp only [Cel.applyBuiltin]
    split <;> rfl
  case duration =>
    obtain ⟨p, rfl, hp⟩ := matchesSig_one h
    obtain ⟨s, rfl⟩ := tyOk_str hp
    simp only [Cel.applyBuiltin]
    split <;> rfl
  case timestamp =>
    obtain ⟨p, rfl, hp⟩ := matchesSig_one h
    obtain ⟨s, rfl⟩ := tyOk_str hp
    simp only [Cel.applyBuiltin]
    split <;> rfl
  case timeAccessor a =>
    obtain ⟨p, rfl, hp⟩ := matchesSig_one h
    obtain ⟨t, o, rfl⟩ := tyOk_ts hp
    rfl

theorem fromValue (t : ExtTy) (v : Value) : (fromValue t v).plain = true := by
  fun_cases Cel.fromValue t v
  all_goals rfl

theorem fromValueOpt (t : ExtTy) (v : Value) : (fromValueOpt t v).plain = true := by
  fun_cases Cel.fromValueOpt t v
  · rfl
  · exact Plain.fromValue _ _

theorem member (ctx : Ctx) (v : Value) (field : Str) : (member ctx v field).plain = true := by
  fun_cases Cel.member ctx v field
  all_goals rfl

end Plain

end Cel
