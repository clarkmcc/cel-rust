import CelModel.Lemmas.F64Interval
/-!
# Burger–Dybvig digit generation: the scaling loops and the digit loop

Everything is on naturals with cross-multiplication.  `LeOrLt ev a b` is `a ≤ b` when the interval end
points are included (`ev = true`, even significand) and `a < b` otherwise; `Within` says that a
fraction lies between `(r - m⁻)/s` and `(r + m⁺)/s`.  The digit loop is self-similar: from the state
`(R, s, P, Q)` it emits `R / s` and goes on from `(10·(R % s), s, 10·P, 10·Q)`, so its invariant and
its result (`Good`: the digits, read as `0.d₁…dₙ`, are `Within`) speak of the current state only.
`F64DigitsAsm` calls `up_spec`, `down_spec` and `gen_spec`, one per loop.
-/
namespace Cel.F64

def LeOrLt (ev : Bool) (a b : Nat) : Prop := if ev = true then a ≤ b else a < b

instance (ev : Bool) (a b : Nat) : Decidable (LeOrLt ev a b) := by unfold LeOrLt; exact inferInstance

theorem LeOrLt.le {ev : Bool} {a b : Nat} (h : LeOrLt ev a b) : a ≤ b := by
  cases ev <;> simp [LeOrLt] at h <;> omega

theorem LeOrLt.of_lt {ev : Bool} {a b : Nat} (h : a < b) : LeOrLt ev a b := by
  cases ev <;> simp [LeOrLt] <;> omega

theorem LeOrLt.not {ev : Bool} {a b : Nat} (h : ¬ LeOrLt ev a b) : LeOrLt (!ev) b a := by
  cases ev <;> simp [LeOrLt] at h ⊢ <;> omega

theorem LeOrLt.mul_right {ev : Bool} {a b : Nat} (t : Nat) (ht : 0 < t) (h : LeOrLt ev a b) :
    LeOrLt ev (a * t) (b * t) := by
  cases ev <;> simp [LeOrLt] at h ⊢
  · exact Nat.mul_lt_mul_of_pos_right h ht
  · exact Nat.mul_le_mul_right t h

theorem LeOrLt.of_mul_right {ev : Bool} {a b t : Nat} (ht : 0 < t) (h : LeOrLt ev (a * t) (b * t)) :
    LeOrLt ev a b := by
  cases ev <;> simp [LeOrLt] at h ⊢
  · exact Nat.lt_of_mul_lt_mul_right h
  · exact Nat.le_of_mul_le_mul_right h ht

theorem LeOrLt.congr {ev : Bool} {a b a' b' : Nat} (h : LeOrLt ev a b) (ha : a = a') (hb : b = b') :
    LeOrLt ev a' b' := by subst ha; subst hb; exact h

theorem LeOrLt.add_left {ev : Bool} {a b : Nat} (k : Nat) (h : LeOrLt ev a b) : LeOrLt ev (k + a) (k + b) := by
  cases ev <;> simp [LeOrLt] at h ⊢ <;> omega

theorem LeOrLt.add_cancel {ev : Bool} {a b k : Nat} (h : LeOrLt ev (a + k) (b + k)) : LeOrLt ev a b := by
  cases ev <;> simp [LeOrLt] at h ⊢ <;> omega

structure Within (ev : Bool) (r s mp mm num den : Nat) : Prop where
  lo : LeOrLt ev (r * den) (num * s + mm * den)
  hi : LeOrLt ev (num * s) (r * den + mp * den)

/-- a fraction for the scaled quadruple `(r·B, s·A, m⁺·B, m⁻·B)` is `A/B` times one for
`(r, s, m⁺, m⁻)` -/
theorem Within.rescale {ev : Bool} {r s mp mm A B X N num den : Nat}
    (h : Within ev (r * B) (s * A) (mp * B) (mm * B) X N) (hNB : 0 < N * B) (hden : 0 < den)
    (e : num * (N * B) = X * A * den) : Within ev r s mp mm num den := by
  constructor
  · apply LeOrLt.of_mul_right hNB
    exact (h.lo.mul_right den hden).congr
      (show r * B * N * den = r * den * (N * B) by ac_rfl)
      (show (X * (s * A) + mm * B * N) * den = (num * s + mm * den) * (N * B) by grind)
  · apply LeOrLt.of_mul_right hNB
    exact (h.hi.mul_right den hden).congr
      (show X * (s * A) * den = num * s * (N * B) by grind)
      (show (r * B * N + mp * B * N) * den = (r * den + mp * den) * (N * B) by grind)

theorem up_zero (ev : Bool) (r mp s : Nat) (k : Int) :
    shortestDigits.up ev r mp 0 s k = (s, k) := rfl

theorem up_step (ev : Bool) (r mp f s : Nat) (k : Int) :
    shortestDigits.up ev r mp (f + 1) s k =
      if LeOrLt ev s (r + mp) then shortestDigits.up ev r mp f (s * 10) (k + 1) else (s, k) := by
  rw [shortestDigits.up]; cases ev <;> simp [LeOrLt]

theorem down_zero (ev : Bool) (r mp mm s : Nat) (k : Int) :
    shortestDigits.down ev 0 r mp mm s k = (r, mp, mm, k) := rfl

theorem down_step (ev : Bool) (f r mp mm s : Nat) (k : Int) :
    shortestDigits.down ev (f + 1) r mp mm s k =
      if LeOrLt ev s ((r + mp) * 10) then (r, mp, mm, k)
      else shortestDigits.down ev f (r * 10) (mp * 10) (mm * 10) s (k - 1) := by
  rw [shortestDigits.down]; cases ev <;> simp [LeOrLt]

theorem up_spec (ev : Bool) (r mp : Nat) :
    ∀ (fuel j s : Nat) (k : Int), j ≤ fuel → r + mp < s * 10 ^ j →
      ∃ a : Nat, a ≤ j ∧ shortestDigits.up ev r mp fuel s k = (s * 10 ^ a, k + (a : Int)) ∧
        LeOrLt (!ev) (r + mp) (s * 10 ^ a) := by
  intro fuel
  induction fuel with
  | zero =>
    intro j s k hj hlt
    have : j = 0 := by omega
    subst this
    refine ⟨0, Nat.le_refl _, ?_, ?_⟩
    · simp [up_zero]
    · exact LeOrLt.of_lt hlt
  | succ fuel ih =>
    intro j s k hj hlt
    rw [up_step]
    by_cases htl : LeOrLt ev s (r + mp)
    · rw [if_pos htl]
      have hge : s ≤ r + mp := htl.le
      have hj0 : j ≠ 0 := by
        intro h0; subst h0; rw [Nat.pow_zero, Nat.mul_one] at hlt; omega
      obtain ⟨j', rfl⟩ : ∃ j', j = j' + 1 := ⟨j - 1, by omega⟩
      have hlt' : r + mp < s * 10 * 10 ^ j' := by
        rw [Nat.pow_succ] at hlt
        rw [Nat.mul_assoc, Nat.mul_comm 10]; exact hlt
      obtain ⟨a, ha, heq, hrel⟩ := ih j' (s * 10) (k + 1) (by omega) hlt'
      refine ⟨a + 1, by omega, ?_, ?_⟩
      · rw [heq, Nat.pow_succ, Nat.mul_assoc, Nat.mul_comm 10]
        congr 1
        simp only [Int.natCast_add, Int.natCast_one]; omega
      · rw [Nat.pow_succ, Nat.mul_comm _ 10, ← Nat.mul_assoc]; exact hrel
    · rw [if_neg htl]
      refine ⟨0, Nat.zero_le _, by simp, ?_⟩
      simpa using LeOrLt.not htl

theorem down_spec (ev : Bool) (s : Nat) :
    ∀ (fuel r mp mm : Nat) (k : Int), LeOrLt (!ev) (r + mp) s →
      ∃ b : Nat, shortestDigits.down ev fuel r mp mm s k
          = (r * 10 ^ b, mp * 10 ^ b, mm * 10 ^ b, k - (b : Int)) ∧
        LeOrLt (!ev) (r * 10 ^ b + mp * 10 ^ b) s := by
  intro fuel
  induction fuel with
  | zero =>
    intro r mp mm k h
    exact ⟨0, by simp [down_zero], by simpa using h⟩
  | succ fuel ih =>
    intro r mp mm k h
    rw [down_step]
    by_cases htl : LeOrLt ev s ((r + mp) * 10)
    · rw [if_pos htl]
      exact ⟨0, by simp, by simpa using h⟩
    · rw [if_neg htl]
      have h' : LeOrLt (!ev) (r * 10 + mp * 10) s := by
        have := LeOrLt.not htl
        rwa [Nat.add_mul] at this
      obtain ⟨b, heq, hrel⟩ := ih (r * 10) (mp * 10) (mm * 10) (k - 1) h'
      simp only [Nat.mul_assoc, ← Nat.pow_succ'] at heq hrel
      refine ⟨b + 1, ?_, hrel⟩
      rw [heq]
      congr 3
      omega

theorem genDigits_step (ev : Bool) (f R s P Q : Nat) (acc : List Nat) :
    genDigits (f + 1) R s P Q ev ev acc =
      if ¬ LeOrLt ev (R % s) Q then
        if ¬ LeOrLt ev s (R % s + P) then
          genDigits f (R % s * 10) s (P * 10) (Q * 10) ev ev (R / s :: acc)
        else ((R / s + 1) :: acc).reverse
      else if ¬ LeOrLt ev s (R % s + P) then (R / s :: acc).reverse
      else if R % s * 2 < s then (R / s :: acc).reverse
      else ((R / s + 1) :: acc).reverse := by
  rw [genDigits]; cases ev <;> simp [LeOrLt]

theorem genDigits_acc (ev : Bool) (f R s P Q : Nat) (acc : List Nat) :
    genDigits f R s P Q ev ev acc = acc.reverse ++ genDigits f R s P Q ev ev [] := by
  induction f generalizing R P Q acc with
  | zero => simp [genDigits]
  | succ f ih =>
    rw [genDigits_step, genDigits_step, ih _ _ _ (_ :: acc), ih _ _ _ [_]]
    repeat' split
    all_goals simp only [List.reverse_cons, List.reverse_nil, List.nil_append, List.append_assoc]

theorem foldl_digits (ds : List Nat) (a : Nat) :
    ds.foldl (fun n d => n * 10 + d) a = a * 10 ^ ds.length + digitsNum ds := by
  induction ds generalizing a with
  | nil => simp [digitsNum]
  | cons d ds ih =>
    rw [digitsNum, List.foldl_cons, List.foldl_cons, ih, ih (0 * 10 + d), List.length_cons, Nat.pow_succ]
    rw [Nat.zero_mul, Nat.zero_add, Nat.add_mul, Nat.mul_assoc, Nat.mul_comm 10, Nat.add_assoc]

theorem digitsNum_cons (d : Nat) (ds : List Nat) :
    digitsNum (d :: ds) = d * 10 ^ ds.length + digitsNum ds := by
  rw [digitsNum, List.foldl_cons, foldl_digits]; simp

structure Good (ev : Bool) (r s mp mm : Nat) (ds : List Nat) : Prop where
  ne : ds ≠ []
  dig : ∀ x ∈ ds, x < 10
  within : Within ev r s mp mm (digitsNum ds) (10 ^ ds.length)

theorem split10 (d s ρ : Nat) : (d * s + ρ) * 10 = d * (s * 10) + ρ * 10 := by
  rw [Nat.add_mul, Nat.mul_assoc]

theorem Good.single {ev : Bool} {r S P Q d : Nat} (hd : d < 10)
    (hlo : LeOrLt ev (r * 10) (d * S + Q * 10)) (hhi : LeOrLt ev (d * S) (r * 10 + P * 10)) :
    Good ev r S P Q [d] := by
  have hn : digitsNum [d] = d := by simp [digitsNum]
  refine ⟨List.cons_ne_nil _ _, fun x hx => List.mem_singleton.1 hx ▸ hd, ?_, ?_⟩
  · rw [hn, List.length_singleton, Nat.pow_one]; exact hlo
  · rw [hn, List.length_singleton, Nat.pow_one]; exact hhi

theorem Good.single_lo {ev : Bool} {d s ρ P Q : Nat} (hP : 0 < P) (hd : d < 10) (h1 : LeOrLt ev ρ Q) :
    Good ev (d * s + ρ) (s * 10) P Q [d] := by
  apply Good.single hd
  · rw [split10]
    exact LeOrLt.add_left _ (h1.mul_right 10 (by decide))
  · rw [split10]
    exact LeOrLt.of_lt (by omega)

theorem Good.single_hi {ev : Bool} {d s ρ P Q : Nat} (hρ : ρ < s) (hd : d + 1 < 10)
    (h2 : LeOrLt ev s (ρ + P)) : Good ev (d * s + ρ) (s * 10) P Q [d + 1] := by
  apply Good.single hd
  · rw [split10, Nat.succ_mul]
    exact LeOrLt.of_lt (by omega)
  · rw [split10, Nat.succ_mul, Nat.add_assoc, ← Nat.add_mul]
    exact LeOrLt.add_left _ (h2.mul_right 10 (by decide))

theorem Good.cons {ev : Bool} {d s ρ P Q : Nat} {ds : List Nat} (hd : d < 10)
    (h : Good ev (ρ * 10) (s * 10) (P * 10) (Q * 10) ds) :
    Good ev (d * s + ρ) (s * 10) P Q (d :: ds) := by
  obtain ⟨_, hdig, hlo, hhi⟩ := h
  refine ⟨List.cons_ne_nil _ _, ?_, ?_, ?_⟩
  · intro x hx
    rcases List.mem_cons.1 hx with rfl | hx
    · exact hd
    · exact hdig x hx
  -- both sides get `d · s · 10^(n+1)` added, the contribution of the new leading digit
  · rw [digitsNum_cons, List.length_cons, Nat.pow_succ]
    exact (LeOrLt.add_left (d * s * (10 ^ ds.length * 10)) hlo).congr
      (show d * s * (10 ^ ds.length * 10) + ρ * 10 * 10 ^ ds.length =
        (d * s + ρ) * (10 ^ ds.length * 10) by grind)
      (show d * s * (10 ^ ds.length * 10) + (digitsNum ds * (s * 10) + Q * 10 * 10 ^ ds.length) =
        (d * 10 ^ ds.length + digitsNum ds) * (s * 10) + Q * (10 ^ ds.length * 10) by grind)
  · rw [digitsNum_cons, List.length_cons, Nat.pow_succ]
    exact (LeOrLt.add_left (d * s * (10 ^ ds.length * 10)) hhi).congr
      (show d * s * (10 ^ ds.length * 10) + digitsNum ds * (s * 10) =
        (d * 10 ^ ds.length + digitsNum ds) * (s * 10) by grind)
      (show d * s * (10 ^ ds.length * 10) + (ρ * 10 * 10 ^ ds.length + P * 10 * 10 ^ ds.length) =
        (d * s + ρ) * (10 ^ ds.length * 10) + P * (10 ^ ds.length * 10) by grind)

/-- one round: it stops with a good digit, or the digits of the remainder are prefixed with it -/
theorem gen_step (ev : Bool) (s : Nat) (hs : 0 < s) (f R P Q : Nat) (hP : 0 < P)
    (hinv : LeOrLt (!ev) (R + P) (s * 10))
    (hrec : LeOrLt (!ev) (R % s * 10 + P * 10) (s * 10) →
      Good ev (R % s * 10) (s * 10) (P * 10) (Q * 10)
        (genDigits f (R % s * 10) s (P * 10) (Q * 10) ev ev [])) :
    Good ev R (s * 10) P Q (genDigits (f + 1) R s P Q ev ev []) := by
  obtain ⟨d, ρ, hR, hρ, hdiv, hmod⟩ : ∃ d ρ, R = d * s + ρ ∧ ρ < s ∧ R / s = d ∧ R % s = ρ :=
    ⟨R / s, R % s, by rw [Nat.mul_comm]; exact (Nat.div_add_mod R s).symm, Nat.mod_lt R hs, rfl, rfl⟩
  rw [genDigits_step, hdiv, hmod]
  rw [hmod] at hrec
  clear hdiv hmod
  subst hR
  have hd : d < 10 := by
    have : d * s < 10 * s := by
      have := hinv.le
      omega
    exact Nat.lt_of_mul_lt_mul_right this
  -- rounding the digit up keeps it a digit
  have hd1 : LeOrLt ev s (ρ + P) → d + 1 < 10 := by
    intro h2
    have : (d + 1) * s < 10 * s := by
      rw [Nat.succ_mul]
      cases ev <;> simp [LeOrLt] at h2 hinv <;> omega
    exact Nat.lt_of_mul_lt_mul_right this
  by_cases h1 : LeOrLt ev ρ Q
  · rw [if_neg (not_not_intro h1)]
    by_cases h2 : LeOrLt ev s (ρ + P)
    · rw [if_neg (not_not_intro h2)]
      split
      · exact Good.single_lo hP hd h1
      · exact Good.single_hi hρ (hd1 h2) h2
    · rw [if_pos h2]
      exact Good.single_lo hP hd h1
  · rw [if_pos h1]
    by_cases h2 : LeOrLt ev s (ρ + P)
    · rw [if_neg (not_not_intro h2)]
      exact Good.single_hi hρ (hd1 h2) h2
    · rw [if_pos h2, genDigits_acc ev]
      apply Good.cons hd
      apply hrec
      rw [← Nat.add_mul]
      exact (LeOrLt.not h2).mul_right 10 (by decide)

theorem gen_spec (ev : Bool) (s : Nat) (hs : 0 < s) (f R P Q : Nat) (hP : 0 < P)
    (hinv : LeOrLt (!ev) (R + P) (s * 10)) (hfuel : s < P * 10 ^ f) :
    Good ev R (s * 10) P Q (genDigits (f + 1) R s P Q ev ev []) := by
  induction f generalizing R P Q with
  | zero =>
    apply gen_step ev s hs 0 R P Q hP hinv
    intro h
    -- out of fuel only if the tolerance is below one unit of the last place, which the fuel excludes
    have := h.le
    omega
  | succ f ih =>
    apply gen_step ev s hs (f + 1) R P Q hP hinv
    intro h
    apply ih _ _ _ (Nat.mul_pos hP (by decide)) h
    rw [Nat.mul_assoc, ← Nat.pow_succ']
    exact hfuel
end Cel.F64
