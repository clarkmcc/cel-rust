import CelModel.Lemmas.ParserLevels
/-!
# One-step unfolding rules of the parser model, and the table of its levels

Stated on `f + 1` (every function hands `fuel - 1` to its callees), the side conditions of the arm's
equation put in terms of `hd`.  The table: `pfun`, `ops`, `ltok`, `lname` on levels, `lvl` on symbols;
`pfun_down` takes a parse one level down.
-/
namespace Cel.Lemmas.ParserSteps
open Cel.Parser

theorem parseExpr_stop {f : Nat} {ts r : Toks} {c : Expr}
    (h : parseOr f ts = some (c, r)) (hq : hd r ≠ "?") : parseExpr (f + 1) ts = some (c, r) := by
  rw [parseExpr, h]
  split <;> simp_all [hd]

theorem parseExpr_cond {f : Nat} {ts r r2 r3 : Toks} {c a b : Expr}
    (h : parseOr f ts = some (c, .sym "?" :: r)) (h2 : parseOr f r = some (a, .sym ":" :: r2))
    (h3 : parseExpr f r2 = some (b, r3)) :
    parseExpr (f + 1) ts = some (.call "_?_:_" [c, a, b], r3) := by
  rw [parseExpr, h]
  simp only [h2, h3]

theorem runLen_replicate (s : String) (n : Nat) (rest : Toks) :
    runLen s (List.replicate n (.sym s) ++ rest) = n + runLen s rest := by
  induction n with
  | zero => simp
  | succ k ih => simp [List.replicate_succ, runLen, ih]; omega

theorem runLen_other (s s' : String) (h : (s' == s) = false) (n : Nat) (hn : 0 < n) (rest : Toks) :
    runLen s (List.replicate n (.sym s') ++ rest) = 0 := by
  cases n with
  | zero => omega
  | succ k => simp [List.replicate_succ, runLen, h]

theorem parseUnary_succ (fuel : Nat) (ts : Toks) : parseUnary (fuel + 1) ts =
    (if runLen "!" ts > 0 then
      match parseMember fuel (ts.drop (runLen "!" ts)) with
      | some (m, r) => some (if runLen "!" ts % 2 == 0 then m else .call "!_" [m], r)
      | none => none
    else if runLen "-" ts > 0 then
      if (runLen "-" ts == 1 && (match ts.drop 1 with
        | .int _ :: _ => true | .float _ :: _ => true | _ => false)) = true then parseMember fuel ts
      else
        match parseMember fuel (ts.drop (runLen "-" ts)) with
        | some (m, r) => some (if runLen "-" ts % 2 == 0 then m else .call "-_" [m], r)
        | none => none
    else parseMember fuel ts) := by
  rw [parseUnary]; rfl

theorem parseUnary_plain {f : Nat} {ts : Toks} (h1 : runLen "!" ts = 0) (h2 : runLen "-" ts = 0) :
    parseUnary (f + 1) ts = parseMember f ts := by
  rw [parseUnary_succ]; simp only [h1, h2, gt_iff_lt, Nat.lt_irrefl, if_false]

theorem parseUnary_not {f : Nat} {ts r : Toks} {m : Expr} (h0 : runLen "!" ts = 0)
    (h : parseMember f ts = some (m, r)) :
    parseUnary (f + 1) (.sym "!" :: ts) = some (.call "!_" [m], r) := by
  rw [parseUnary_succ]
  simp [runLen, h0, h]

theorem parseUnary_neg {f : Nat} {ts r : Toks} {m : Expr}
    (hnum : (match ts with | .int _ :: _ => true | .float _ :: _ => true | _ => false) = false)
    (h0 : runLen "-" ts = 0) (h : parseMember f ts = some (m, r)) :
    parseUnary (f + 1) (.sym "-" :: ts) = some (.call "-_" [m], r) := by
  rw [parseUnary_succ]
  simp [runLen, h0, h]
  exact fun hc => absurd (hc.symm.trans hnum) (by decide)

theorem parseMember_of {f : Nat} {ts r : Toks} {p : Expr} (h : parsePrimary f ts = some (p, r)) :
    parseMember (f + 1) ts = parseSuffix f r p := by
  rw [parseMember, h]

theorem parseSuffix_stop {f : Nat} {ts : Toks} {e : Expr} (h1 : hd ts ≠ ".") (h2 : hd ts ≠ "[") :
    parseSuffix (f + 1) ts e = some (e, ts) := by
  have hdot : ∀ r, ts = .sym "." :: r → False := fun r he => h1 (by rw [he, hd_sym])
  rw [parseSuffix]
  · exact fun _ _ => hdot _
  · exact fun _ _ => hdot _
  · exact fun _ _ => hdot _
  · exact fun r he => h2 (by rw [he, hd_sym])

theorem parseSuffix_index {f : Nat} {r r' : Toks} {e i : Expr}
    (h : parseExpr f r = some (i, .sym "]" :: r')) :
    parseSuffix (f + 1) (.sym "[" :: r) e = parseSuffix f r' (.call "_[_]" [e, i]) := by
  rw [parseSuffix, h]
  rfl

theorem parseSuffix_select {f : Nat} {r : Toks} {e : Expr} {fld : Str} (h : hd r ≠ "(") :
    parseSuffix (f + 1) (.sym "." :: .ident fld :: r) e = parseSuffix f r (.select e fld false) := by
  rw [parseSuffix]
  exact fun r1 hr => h (by rw [hr, hd_sym])

theorem parsePrimary_int (f : Nat) (t : Str) (r : Toks) :
    parsePrimary (f + 1) (.int t :: r) = (intLiteral false t).map (·, r) := by
  rw [parsePrimary]

theorem parsePrimary_paren {f : Nat} {r r' : Toks} {e : Expr}
    (h : parseExpr f r = some (e, .sym ")" :: r')) :
    parsePrimary (f + 1) (.sym "(" :: r) = some (e, r') := by
  rw [parsePrimary, h]
  rfl

theorem parseArgs_nil (g : Nat) (r : Toks) : parseArgs (g + 1) (.sym ")" :: r) = some ([], r) := by
  rw [parseArgs]
theorem parseListElems_nil (g : Nat) (r : Toks) :
    parseListElems (g + 1) (.sym "]" :: r) = some ([], r) := by
  rw [parseListElems]
theorem parseMapEntries_nil (g : Nat) (r : Toks) :
    parseMapEntries (g + 1) (.sym "}" :: r) = some ([], r) := by
  rw [parseMapEntries]

theorem messageHead_ident (k : Nat) (n : Str) (r : Toks) (h1 : hd r ≠ ".") (h2 : hd r ≠ "{") :
    messageHead k (.ident n :: r) = none := by
  cases k with
  | zero => rfl
  | succ k =>
    rw [messageHead]
    · intro n' r' hr
      cases hr
      exact h2 rfl
    · intro n' r' hr
      cases hr
      exact h1 rfl

end Cel.Lemmas.ParserSteps

namespace Cel.Lemmas.ParserMin
open Cel.Parser
/-- levels: see `ParsesAt`; in this namespace because its full name is used by statements elsewhere -/
def pfun : Nat → Nat → Toks → Option (Expr × Toks)
  | 0 => parseExpr | 1 => parseOr | 2 => parseAnd | 3 => parseRel | 4 => parseAdd
  | 5 => parseMul | 6 => parseUnary | _ => parseMember
end Cel.Lemmas.ParserMin

namespace Cel.Lemmas.ParserSteps
open Cel.Parser Cel.Lemmas.ParserLevels Cel.Lemmas.ParserMin

/-- how far out a symbol binds, from the tightest: 0 continues a member (`. [ { (`), 1 `* / %`,
2 `+ -`, 3 relations, 4 `&&`, 5 `||`, 6 `?`, 7 everything else (closers, separators, no symbol).
The grammar's levels count the other way: see `ParsesAt`. -/
def lvl (s : String) : Nat :=
  if s = "." ∨ s = "[" ∨ s = "{" ∨ s = "(" then 0
  else if (mulOpName s).isSome then 1
  else if (addOpName s).isSome then 2
  else if (relOpName s).isSome then 3
  else if s = "&&" then 4
  else if s = "||" then 5
  else if s = "?" then 6
  else 7

theorem lvl_rparen : lvl ")" = 7 := by decide
theorem lvl_rbrack : lvl "]" = 7 := by decide
theorem lvl_rbrace : lvl "}" = 7 := by decide
theorem lvl_comma : lvl "," = 7 := by decide
theorem lvl_colon : lvl ":" = 7 := by decide
theorem lvl_empty : lvl "" = 7 := by decide
theorem lvl_quest : lvl "?" = 6 := by decide
theorem lvl_or : lvl "||" = 5 := by decide
theorem lvl_and : lvl "&&" = 4 := by decide

theorem lvl_pos {s : String} (h : 0 < lvl s) : s ≠ "." ∧ s ≠ "[" ∧ s ≠ "{" ∧ s ≠ "(" :=
  ⟨fun e => absurd (e ▸ h) (by decide), fun e => absurd (e ▸ h) (by decide),
    fun e => absurd (e ▸ h) (by decide), fun e => absurd (e ▸ h) (by decide)⟩

theorem lvl_gt6 {s : String} (h : 6 < lvl s) : s ≠ "?" := by
  rintro rfl; rw [lvl_quest] at h; omega

theorem mulOp_cases {s nm : String} : mulOpName s = some nm → s = "*" ∨ s = "/" ∨ s = "%" := by
  fun_cases mulOpName s <;> simp
theorem addOp_cases {s nm : String} : addOpName s = some nm → s = "+" ∨ s = "-" := by
  fun_cases addOpName s <;> simp
theorem relOp_cases {s nm : String} : relOpName s = some nm →
    s = "<" ∨ s = "<=" ∨ s = ">=" ∨ s = ">" ∨ s = "==" ∨ s = "!=" ∨ s = "in" := by
  fun_cases relOpName s <;> simp

def ops : Nat → String → Option String
  | 3 => relOpName | 4 => addOpName | _ => mulOpName

def ltok : Nat → String
  | 1 => "||" | _ => "&&"
def lname : Nat → String
  | 1 => "_||_" | _ => "_&&_"

section
variable {p : Nat}

theorem pfun_levelL (h3 : 3 ≤ p) (h5 : p ≤ 5) : pfun p = levelL (ops p) (pfun (p + 1)) :=
  match p, h3, h5 with
  | 3, _, _ => parseRel_eq
  | 4, _, _ => parseAdd_eq
  | 5, _, _ => parseMul_eq

theorem pfun_levelLogic (h1 : 1 ≤ p) (h2 : p ≤ 2) :
    pfun p = levelLogic (ltok p) (lname p) (pfun (p + 1)) :=
  match p, h1, h2 with
  | 1, _, _ => parseOr_eq
  | 2, _, _ => parseAnd_eq

theorem ops_lvl (h3 : 3 ≤ p) (h5 : p ≤ 5) {s nm : String} (h : ops p s = some nm) : lvl s = 6 - p :=
  match p, h3, h5, h with
  | 3, _, _, h => by rcases relOp_cases h with rfl | rfl | rfl | rfl | rfl | rfl | rfl <;> decide
  | 4, _, _, h => by rcases addOp_cases h with rfl | rfl <;> decide
  | 5, _, _, h => by rcases mulOp_cases h with rfl | rfl | rfl <;> decide

theorem ops_none (h3 : 3 ≤ p) (h5 : p ≤ 5) {s : String} (hl : 6 - p < lvl s) : ops p s = none := by
  cases h : ops p s with
  | none => rfl
  | some nm => have := ops_lvl h3 h5 h; omega

theorem lvl_ltok (h1 : 1 ≤ p) (h2 : p ≤ 2) : lvl (ltok p) = 6 - p :=
  match p, h1, h2 with
  | 1, _, _ => lvl_or
  | 2, _, _ => lvl_and

theorem ne_ltok (h1 : 1 ≤ p) (h2 : p ≤ 2) {s : String} (hl : 6 - p < lvl s) : s ≠ ltok p := by
  rintro rfl; rw [lvl_ltok h1 h2] at hl; omega
end

theorem pfun_down {p g : Nat} {ts r : Toks} {e : Expr} (hp : p ≤ 5)
    (h : pfun (p + 1) (g + 1) ts = some (e, r)) (hl : 6 - p < lvl (hd r)) :
    pfun p (g + 2) ts = some (e, r) := by
  by_cases h0 : p = 0
  · subst h0
    exact parseExpr_stop h (lvl_gt6 hl)
  by_cases h2 : p ≤ 2
  · rw [pfun_levelLogic (by omega) h2]
    exact levelLogic_single h (ne_ltok (by omega) h2 hl)
  · rw [pfun_levelL (by omega) hp]
    exact levelL_single h (ops_none (by omega) hp hl)

end Cel.Lemmas.ParserSteps
