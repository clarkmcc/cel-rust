import CelModel.Lemmas.ParserMin
import CelModel.Lemmas.ParserInv
/-!
# Parser lemmas for calls, list literals and map literals

`Items` / `Entries` say that `parseExpr` reads each written item; `SeqParser.all` and
`parseMapEntries_all`, that the sequence parsers then read the whole separated list up to its
closing token; `member_call`, `member_list`, `member_map` and `Member.mcall` are what the round trips
use.
-/
namespace Cel.Lemmas.ParserCalls
open Cel.Parser Cel.Lemmas.ParserSteps Cel.Lemmas.ParserMin Cel.Lemmas.ParserLevels

/-- not the `closer` of the bracket checker (`Lemmas/ParserInv.lean`), which is a function on tokens -/
def Closer (s : String) : Prop := s = "," ∨ s = ")" ∨ s = "]" ∨ s = "}"

theorem closer_comma : Closer "," := Or.inl rfl
theorem closer_rparen : Closer ")" := Or.inr (Or.inl rfl)
theorem closer_rbrack : Closer "]" := Or.inr (Or.inr (Or.inl rfl))
theorem closer_rbrace : Closer "}" := Or.inr (Or.inr (Or.inr rfl))

theorem Closer.lvl {s : String} (h : Closer s) : lvl s = 7 := by
  rcases h with rfl | rfl | rfl | rfl <;> decide

/-- such a token is not `canStart` -/
theorem parseExpr_some_ne {g : Nat} {ts : Toks} {p : Expr × Toks} (h : parseExpr g ts = some p)
    {s : String} (hs : Closer s) (r : Toks) : ts ≠ .sym s :: r := by
  rintro rfl
  obtain ⟨t, ht, hc⟩ := (ParserInv.parseExpr_good (e := p.1) (rest := p.2) h).2
  cases ht
  rcases hs with rfl | rfl | rfl | rfl <;> exact absurd hc (by decide)

theorem parseExpr_some_hd {g : Nat} {ts : Toks} {p : Expr × Toks} (h : parseExpr g ts = some p) :
    ¬ Closer (hd ts) := by
  intro hc
  rcases sym_cases ts with ⟨s, r, rfl⟩ | hn
  · exact parseExpr_some_ne h hc r rfl
  · rw [hd_other hn] at hc
    exact absurd hc (by simp [Closer])

theorem _root_.Cel.Lemmas.ParserMin.ParsesAt.hd_ne {f : Nat} {t rest : Toks} {e : Expr}
    (ht : ParsesAt 0 f t e) (hl : 6 < lvl (hd rest)) {s : String} (hs : Closer s) :
    hd (t ++ rest) ≠ s :=
  fun heq => parseExpr_some_hd (ht f rest (Nat.le_refl _) hl) (heq ▸ hs)

theorem parseArgs_last {g : Nat} {ts r : Toks} {a : Expr}
    (h : parseExpr g ts = some (a, .sym ")" :: r)) : parseArgs (g + 1) ts = some ([a], r) := by
  rw [parseArgs, h]
  · rfl
  · exact parseExpr_some_ne h closer_rparen

theorem parseArgs_more {g : Nat} {ts r r' : Toks} {a : Expr} {as : List Expr}
    (h : parseExpr g ts = some (a, .sym "," :: r)) (hr : hd r ≠ ")")
    (h2 : parseArgs g r = some (as, r')) : parseArgs (g + 1) ts = some (a :: as, r') := by
  rw [parseArgs, h]
  · simp only
    split
    · exact absurd rfl hr
    · rw [h2]
  · exact parseExpr_some_ne h closer_rparen

theorem parseListElems_last {g : Nat} {ts r : Toks} {a : Expr}
    (h : parseExpr g ts = some (a, .sym "]" :: r)) : parseListElems (g + 1) ts = some ([a], r) := by
  rw [parseListElems, h]
  · rfl
  · exact parseExpr_some_ne h closer_rbrack

theorem parseListElems_more {g : Nat} {ts r r' : Toks} {a : Expr} {as : List Expr}
    (h : parseExpr g ts = some (a, .sym "," :: r))
    (h2 : parseListElems g r = some (as, r')) : parseListElems (g + 1) ts = some (a :: as, r') := by
  rw [parseListElems, h]
  · simp only [h2]
  · exact parseExpr_some_ne h closer_rbrack

theorem parseMapEntries_last {g : Nat} {ts r r2 : Toks} {k v : Expr}
    (hk : parseExpr g ts = some (k, .sym ":" :: r)) (hv : parseExpr g r = some (v, .sym "}" :: r2)) :
    parseMapEntries (g + 1) ts = some ([(k, v)], r2) := by
  rw [parseMapEntries, hk]
  · simp only [hv]
  · exact parseExpr_some_ne hk closer_rbrace

theorem parseMapEntries_more {g : Nat} {ts r r2 r3 : Toks} {k v : Expr} {es : List (Expr × Expr)}
    (hk : parseExpr g ts = some (k, .sym ":" :: r)) (hv : parseExpr g r = some (v, .sym "," :: r2))
    (h2 : parseMapEntries g r2 = some (es, r3)) :
    parseMapEntries (g + 1) ts = some ((k, v) :: es, r3) := by
  rw [parseMapEntries, hk]
  · simp only [hv, h2]
  · exact parseExpr_some_ne hk closer_rbrace

theorem callOrMacro_global {f : String} {args : List Expr} (h : Macros.expand f none args = .notMacro) :
    callOrMacro f none args = some (.call f args) := by
  simp only [callOrMacro, h]

theorem callOrMacro_receiver {f : String} {t : Expr} {args : List Expr}
    (h : Macros.expand f (some t) args = .notMacro) :
    callOrMacro f (some t) args = some (.mcall f t args) := by
  simp only [callOrMacro, h]

theorem parsePrimary_call {g : Nat} {fn : Str} {r r' : Toks} {args : List Expr}
    (h : parseArgs g r = some (args, r'))
    (hm : Macros.expand (String.ofList fn) none args = .notMacro) :
    parsePrimary (g + 1) (.ident fn :: .sym "(" :: r) = some (.call (String.ofList fn) args, r') := by
  rw [parsePrimary, messageHead_ident _ fn (.sym "(" :: r) (by simp) (by simp), h]
  simp only [Bool.false_eq_true, if_false, List.nil_append, callOrMacro_global hm, Option.map]

theorem parsePrimary_list {g : Nat} {r r' : Toks} {es : List Expr}
    (h : parseListElems g r = some (es, r')) (hr : hd r ≠ ",") :
    parsePrimary (g + 1) (.sym "[" :: r) = some (.list es, r') := by
  rw [parsePrimary, h]
  intro r'' hr'
  subst hr'
  exact hr rfl

theorem parsePrimary_map {g : Nat} {r r' : Toks} {es : List (Expr × Expr)}
    (h : parseMapEntries g r = some (es, r')) (hr : hd r ≠ ",") :
    parsePrimary (g + 1) (.sym "{" :: r) = some (.map es, r') := by
  rw [parsePrimary, h]
  intro r'' hr'
  subst hr'
  exact hr rfl

theorem parseSuffix_mcall {g : Nat} {fn : Str} {r r' : Toks} {e : Expr} {args : List Expr}
    (h : parseArgs g r = some (args, r'))
    (hm : Macros.expand (String.ofList fn) (some e) args = .notMacro) :
    parseSuffix (g + 1) (.sym "." :: .ident fn :: .sym "(" :: r) e
      = parseSuffix g r' (.mcall (String.ofList fn) e args) := by
  rw [parseSuffix, h]
  simp only [callOrMacro_receiver hm]

inductive Items (f : Nat) : List Toks → List Expr → Prop
  | nil : Items f [] []
  | cons {t : Toks} {e : Expr} {ts : List Toks} {es : List Expr} :
      ParsesAt 0 f t e → Items f ts es → Items f (t :: ts) (e :: es)

theorem Items.mono {f f' : Nat} {ts : List Toks} {es : List Expr} (h : Items f ts es) (hf : f ≤ f') :
    Items f' ts es := by
  induction h with
  | nil => exact .nil
  | cons ht _ ih => exact .cons (ht.mono hf) ih

def sepTail : List Toks → Toks
  | [] => []
  | t :: ts => .sym "," :: (t ++ sepTail ts)

def sepList : List Toks → Toks
  | [] => []
  | t :: ts => t ++ sepTail ts

theorem length_sepTail_le (ts : List Toks) : (sepTail ts).length ≤ (sepList ts).length + 1 := by
  cases ts with
  | nil => simp [sepTail]
  | cons t ts => simp [sepTail, sepList]

theorem lvl_hd_sepTail (ts : List Toks) {c : String} (hc : Closer c) (rest : Toks) :
    6 < lvl (hd (sepTail ts ++ .sym c :: rest)) := by
  cases ts with
  | nil => simp [sepTail, hc.lvl]
  | cons t ts => simp [sepTail, lvl_comma]

/-- what the proofs use about `parseArgs` / `parseListElems` -/
structure SeqParser (P : Nat → Toks → Option (List Expr × Toks)) (c : String) : Prop where
  closer : Closer c
  nil : ∀ (g : Nat) (r : Toks), P (g + 1) (.sym c :: r) = some ([], r)
  last : ∀ {g : Nat} {ts r : Toks} {a : Expr}, parseExpr g ts = some (a, .sym c :: r) → P (g + 1) ts = some ([a], r)
  more : ∀ {g : Nat} {ts r r' : Toks} {a : Expr} {as : List Expr},
    parseExpr g ts = some (a, .sym "," :: r) → hd r ≠ c → P g r = some (as, r') → P (g + 1) ts = some (a :: as, r')

theorem seqParser_args : SeqParser parseArgs ")" :=
  ⟨closer_rparen, parseArgs_nil, parseArgs_last, parseArgs_more⟩

theorem seqParser_list : SeqParser parseListElems "]" :=
  ⟨closer_rbrack, parseListElems_nil, parseListElems_last, fun h _ h2 => parseListElems_more h h2⟩

section
variable {P : Nat → Toks → Option (List Expr × Toks)} {c : String} {f : Nat}

theorem SeqParser.tail (hP : SeqParser P c) {ts : List Toks} {es : List Expr} (h : Items f ts es) :
    ∀ {t : Toks} {e : Expr}, ParsesAt 0 f t e → ∀ (g : Nat) (rest : Toks), f + ts.length + 1 ≤ g →
      P (g + 1) (t ++ (sepTail ts ++ .sym c :: rest)) = some (e :: es, rest) := by
  induction h with
  | nil =>
    intro t e ht g rest hg
    obtain ⟨g, rfl⟩ := Nat.exists_eq_add_one_of_ne_zero (by simp at hg; omega : g ≠ 0)
    exact hP.last (ht.before hP.closer.lvl (by simp at hg; omega) rest)
  | @cons t2 e2 ts es h2 _ ih =>
    intro t e ht g rest hg
    simp only [List.length_cons] at hg
    obtain ⟨g, rfl⟩ := Nat.exists_eq_add_one_of_ne_zero (by omega : g ≠ 0)
    simp only [sepTail, List.cons_append, List.append_assoc]
    exact hP.more (ht.before lvl_comma (by omega) _)
      (h2.hd_ne (lvl_hd_sepTail ts hP.closer rest) hP.closer) (ih h2 g rest (by omega))

theorem SeqParser.all (hP : SeqParser P c) {ts : List Toks} {es : List Expr} (h : Items f ts es)
    (g : Nat) (rest : Toks) (hg : f + ts.length + 1 ≤ g) :
    P (g + 1) (sepList ts ++ .sym c :: rest) = some (es, rest) := by
  cases h with
  | nil => exact hP.nil g rest
  | cons ht hts =>
    simp only [sepList, List.append_assoc]
    exact hP.tail hts ht g rest (by simp only [List.length_cons] at hg; omega)

theorem hd_sepList_ne_comma {ts : List Toks} {es : List Expr} (h : Items f ts es) {c : String}
    (hc : Closer c) (hcc : c ≠ ",") (rest : Toks) : hd (sepList ts ++ .sym c :: rest) ≠ "," := by
  cases h with
  | nil => simpa [sepList] using hcc
  | @cons t e ts es ht hts =>
    simp only [sepList, List.append_assoc]
    exact ht.hd_ne (lvl_hd_sepTail ts hc rest) closer_comma
end

inductive Entries (f : Nat) : List (Toks × Toks) → List (Expr × Expr) → Prop
  | nil : Entries f [] []
  | cons {k v : Toks} {ek ev : Expr} {ts : List (Toks × Toks)} {es : List (Expr × Expr)} :
      ParsesAt 0 f k ek → ParsesAt 0 f v ev → Entries f ts es → Entries f ((k, v) :: ts) ((ek, ev) :: es)

theorem Entries.mono {f f' : Nat} {ts : List (Toks × Toks)} {es : List (Expr × Expr)}
    (h : Entries f ts es) (hf : f ≤ f') : Entries f' ts es := by
  induction h with
  | nil => exact .nil
  | cons hk hv _ ih => exact .cons (hk.mono hf) (hv.mono hf) ih

def sepEntTail : List (Toks × Toks) → Toks
  | [] => []
  | (k, v) :: ts => .sym "," :: (k ++ .sym ":" :: (v ++ sepEntTail ts))

def sepEntries : List (Toks × Toks) → Toks
  | [] => []
  | (k, v) :: ts => k ++ .sym ":" :: (v ++ sepEntTail ts)

theorem length_sepEntTail_le (ts : List (Toks × Toks)) : (sepEntTail ts).length ≤ (sepEntries ts).length + 1 := by
  match ts with
  | [] => simp [sepEntTail]
  | (k, v) :: ts => simp [sepEntTail, sepEntries]

/-- `parseMapEntries_tail` does without it: `parseMapEntries`, unlike `parseArgs`, does not look behind
a comma -/
theorem lvl_hd_sepEntTail (ts : List (Toks × Toks)) (rest : Toks) :
    6 < lvl (hd (sepEntTail ts ++ .sym "}" :: rest)) := by
  match ts with
  | [] => simp [sepEntTail, lvl_rbrace]
  | (k, v) :: ts => simp [sepEntTail, lvl_comma]

section
variable {f : Nat}

theorem parseMapEntries_tail {ts : List (Toks × Toks)} {es : List (Expr × Expr)} (h : Entries f ts es) :
    ∀ {k v : Toks} {ek ev : Expr}, ParsesAt 0 f k ek → ParsesAt 0 f v ev →
      ∀ (g : Nat) (rest : Toks), f + ts.length + 1 ≤ g →
      parseMapEntries (g + 1) (k ++ .sym ":" :: (v ++ (sepEntTail ts ++ .sym "}" :: rest)))
        = some ((ek, ev) :: es, rest) := by
  induction h with
  | nil =>
    intro k v ek ev hk hv g rest hg
    obtain ⟨g, rfl⟩ := Nat.exists_eq_add_one_of_ne_zero (by simp at hg; omega : g ≠ 0)
    have hg' : f ≤ g := by simp at hg; omega
    exact parseMapEntries_last (hk.before lvl_colon hg' _) (hv.before lvl_rbrace hg' rest)
  | @cons k2 v2 ek2 ev2 ts es hk2 hv2 _ ih =>
    intro k v ek ev hk hv g rest hg
    simp only [List.length_cons] at hg
    obtain ⟨g, rfl⟩ := Nat.exists_eq_add_one_of_ne_zero (by omega : g ≠ 0)
    simp only [sepEntTail, List.cons_append, List.append_assoc]
    exact parseMapEntries_more (hk.before lvl_colon (by omega) _) (hv.before lvl_comma (by omega) _)
      (ih hk2 hv2 g rest (by omega))

theorem parseMapEntries_all {ts : List (Toks × Toks)} {es : List (Expr × Expr)} (h : Entries f ts es)
    (g : Nat) (rest : Toks) (hg : f + ts.length + 1 ≤ g) :
    parseMapEntries (g + 1) (sepEntries ts ++ .sym "}" :: rest) = some (es, rest) := by
  cases h with
  | nil => exact parseMapEntries_nil g rest
  | cons hk hv hts =>
    simp only [sepEntries, List.append_assoc, List.cons_append]
    exact parseMapEntries_tail hts hk hv g rest (by simp only [List.length_cons] at hg; omega)

theorem hd_sepEntries_ne_comma {ts : List (Toks × Toks)} {es : List (Expr × Expr)} (h : Entries f ts es)
    (rest : Toks) : hd (sepEntries ts ++ .sym "}" :: rest) ≠ "," := by
  cases h with
  | nil => simp [sepEntries]
  | @cons k v ek ev ts es hk hv hts =>
    simp only [sepEntries, List.append_assoc, List.cons_append]
    exact hk.hd_ne (by rw [hd_sym, lvl_colon]; omega) closer_comma
end

section
variable {f : Nat} {ts : List Toks} {es : List Expr}

theorem member_call (h : Items f ts es) (fn : Str)
    (hm : Macros.expand (String.ofList fn) none es = .notMacro) :
    Member (f + ts.length + 3) 0 ([.ident fn, .sym "("] ++ sepList ts ++ [.sym ")"])
      (.call (String.ofList fn) es) :=
  member_primary (.ident fn _) fun g rest hg _ => by
    obtain ⟨g, rfl⟩ := Nat.exists_eq_add_one_of_ne_zero (by omega : g ≠ 0)
    simp only [List.append_assoc, List.cons_append, List.nil_append]
    exact parsePrimary_call (seqParser_args.all h g rest (by omega)) hm

theorem member_list (h : Items f ts es) :
    Member (f + ts.length + 3) 0 ([.sym "["] ++ sepList ts ++ [.sym "]"]) (.list es) :=
  member_primary (.brack _) fun g rest hg _ => by
    obtain ⟨g, rfl⟩ := Nat.exists_eq_add_one_of_ne_zero (by omega : g ≠ 0)
    simp only [List.append_assoc, List.cons_append, List.nil_append]
    exact parsePrimary_list (seqParser_list.all h g rest (by omega))
      (hd_sepList_ne_comma h closer_rbrack (by decide) rest)

theorem member_map {ps : List (Toks × Toks)} {ees : List (Expr × Expr)} (h : Entries f ps ees) :
    Member (f + ps.length + 3) 0 ([.sym "{"] ++ sepEntries ps ++ [.sym "}"]) (.map ees) :=
  member_primary (.brace _) fun g rest hg _ => by
    obtain ⟨g, rfl⟩ := Nat.exists_eq_add_one_of_ne_zero (by omega : g ≠ 0)
    simp only [List.append_assoc, List.cons_append, List.nil_append]
    exact parsePrimary_map (parseMapEntries_all h g rest (by omega)) (hd_sepEntries_ne_comma h rest)

theorem _root_.Cel.Lemmas.ParserMin.Member.mcall {fa n : Nat} {A : Toks} {ea : Expr}
    (ha : Member fa n A ea) (h : Items f ts es) (fn : Str)
    (hm : Macros.expand (String.ofList fn) (some ea) es = .notMacro) :
    Member (max fa (f + ts.length + n + 3)) (n + 1)
      (A ++ [.sym ".", .ident fn, .sym "("] ++ sepList ts ++ [.sym ")"]) (.mcall (String.ofList fn) ea es) := by
  obtain ⟨m, hm', hmf, hA⟩ := ha.cont
  refine ⟨⟨m + 1, by omega, by omega, fun g rest hg _ => ?_⟩, by
    simp only [List.append_assoc]; exact ha.hd.append _⟩
  obtain ⟨g, rfl⟩ := Nat.exists_eq_add_one_of_ne_zero (by omega : g ≠ 0)
  simp only [List.append_assoc, List.cons_append, List.nil_append]
  rw [show g + 1 + (m + 1) + 1 = g + 1 + 1 + m + 1 by omega, hA (g + 1 + 1) _ (by omega) (.call fn _),
    parseSuffix_mcall (seqParser_args.all h g rest (by omega)) hm]
end

end Cel.Lemmas.ParserCalls
