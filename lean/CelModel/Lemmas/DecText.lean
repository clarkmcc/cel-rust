import CelModel.Time
/-!
# Decimal digit strings, through core's `Nat.ofDigitChars`

The model has the digit test `'0' ≤ c && c ≤ '9'` four times (`Lexer.isDigit`, `Dur.isDigit`,
`Time.isDigit`, `F64.isDigit`), the fold `n * 10 + (c.toNat - 48)` four times, `takeDigits` and
`digitChar` twice.  The facts are stated for the `Dur` copies and the fold `val`.  The copies unfold
to the same terms, so `exact` takes a fact about one for another; `rw` does not see through them and
needs `dur_digitsToNat`, `f64_takeDigits` or a one-line restatement (`Dur.digitsToNat_append`).
-/
namespace Cel.Lemmas.DecText

abbrev val (l : List Char) (init : Nat := 0) : Nat := l.foldl (fun n c => n * 10 + (c.toNat - 48)) init

theorem val_eq_ofDigitChars (l : List Char) (init : Nat) : val l init = Nat.ofDigitChars 10 l init := by
  induction l generalizing init with
  | nil => rfl
  | cons c cs ih =>
    rw [Nat.ofDigitChars_cons, ← ih, Nat.mul_comm]
    rfl

theorem val_append (l m : List Char) : val (l ++ m) = val l * 10 ^ m.length + val m := by
  rw [val_eq_ofDigitChars, Nat.ofDigitChars_append, Nat.ofDigitChars_eq_ofDigitChars_zero,
    ← val_eq_ofDigitChars, ← val_eq_ofDigitChars, Nat.mul_comm]

theorem val_cons (c : Char) (cs : List Char) : val (c :: cs) = (c.toNat - 48) * 10 ^ cs.length + val cs := by
  rw [← List.singleton_append, val_append]
  show (0 * 10 + (c.toNat - 48)) * 10 ^ cs.length + val cs = _
  rw [Nat.zero_mul, Nat.zero_add]

theorem val_snoc (cs : List Char) (c : Char) : val (cs ++ [c]) = val cs * 10 + (c.toNat - 48) := by
  simp [val, List.foldl_append]

theorem val_zeros (k : Nat) : val (List.replicate k '0') = 0 := by
  rw [val_eq_ofDigitChars, Nat.ofDigitChars_replicate_zero, Nat.mul_zero]

theorem val_zeros_append (k : Nat) (s : List Char) : val (List.replicate k '0' ++ s) = val s := by
  rw [val_append, val_zeros, Nat.zero_mul, Nat.zero_add]

theorem val_dropZeros (cs : List Char) : val (cs.dropWhile (· == '0')) = val cs := by
  induction cs with
  | nil => rfl
  | cons c cs ih =>
    by_cases hc : c = '0'
    · rw [List.dropWhile_cons_of_pos (by simp [hc]), ih, hc, val_cons]
      show val cs = 0 * 10 ^ cs.length + val cs
      rw [Nat.zero_mul, Nat.zero_add]
    · rw [List.dropWhile_cons_of_neg (by simp [hc])]

theorem isDigit_iff (c : Char) : Dur.isDigit c = true ↔ '0' ≤ c ∧ c ≤ '9' := by
  simp [Dur.isDigit]

theorem isDigit_iff_toNat (c : Char) : Dur.isDigit c = true ↔ 48 ≤ c.toNat ∧ c.toNat ≤ 57 := by
  rw [isDigit_iff, Char.le_def, Char.le_def, UInt32.le_iff_toNat_le, UInt32.le_iff_toNat_le]
  rfl

theorem ne_of_isDigit {c x : Char} (hc : Dur.isDigit c = true) (hx : Dur.isDigit x = false) :
    c ≠ x := by
  intro h
  rw [h, hx] at hc
  cases hc

theorem val_lt {cs : List Char} (h : ∀ c ∈ cs, Dur.isDigit c = true) : val cs < 10 ^ cs.length := by
  induction cs with
  | nil => decide
  | cons c cs ih =>
    have hc := (isDigit_iff_toNat c).1 (h c List.mem_cons_self)
    have := ih fun x hx => h x (List.mem_cons_of_mem _ hx)
    rw [val_cons, List.length_cons, Nat.pow_succ]
    have : (c.toNat - 48) * 10 ^ cs.length ≤ 9 * 10 ^ cs.length := Nat.mul_le_mul_right _ (by omega)
    omega

theorem le_val_cons (c : Char) (cs : List Char) (hc : Dur.isDigit c = true) (h0 : c ≠ '0') :
    10 ^ cs.length ≤ val (c :: cs) := by
  have h := (isDigit_iff_toNat c).1 hc
  have hne : c.toNat ≠ 48 := fun e => h0 (Char.toNat_inj.1 e)
  rw [val_cons]
  have : 1 * 10 ^ cs.length ≤ (c.toNat - 48) * 10 ^ cs.length := Nat.mul_le_mul_right _ (by omega)
  omega

/-- the value of a digit string is bounded below by its length without leading zeros -/
theorem le_val (cs : List Char) (h : ∀ c ∈ cs, Dur.isDigit c = true)
    (hs : 0 < (cs.dropWhile (· == '0')).length) :
    10 ^ ((cs.dropWhile (· == '0')).length - 1) ≤ val cs := by
  rw [← val_dropZeros]
  cases hd : cs.dropWhile (· == '0') with
  | nil => simp [hd] at hs
  | cons c t =>
    have hmem : c ∈ cs := (List.dropWhile_sublist _).subset (hd ▸ List.mem_cons_self)
    have h0 : c ≠ '0' := by
      have := List.head?_dropWhile_not (· == '0') cs
      rw [hd] at this
      simpa using this
    exact le_val_cons c t (h c hmem) h0

/-- a non-zero value has a significant digit -/
theorem dropZeros_length_pos {cs : List Char} (hne : val cs ≠ 0) :
    0 < (cs.dropWhile (· == '0')).length := by
  cases hd : cs.dropWhile (· == '0') with
  | nil =>
    rw [← val_dropZeros, hd] at hne
    exact absurd rfl hne
  | cons => exact Nat.succ_pos _

theorem digitChar_spec {d : Nat} (h : d < 10) :
    Dur.isDigit (Dur.digitChar d) = true ∧ (Dur.digitChar d).toNat - 48 = d := by
  revert d
  decide

theorem takeDigits_append (ds rest : List Char) (hds : ∀ c ∈ ds, Dur.isDigit c = true)
    (hrest : ∀ c, rest.head? = some c → Dur.isDigit c = false) :
    Dur.takeDigits (ds ++ rest) = (ds, rest) := by
  induction ds with
  | nil =>
    cases rest with
    | nil => rfl
    | cons c cs => simp [Dur.takeDigits, hrest c rfl]
  | cons d ds ih =>
    have ih' := ih fun c hc => hds c (List.mem_cons_of_mem _ hc)
    simp [Dur.takeDigits, hds d List.mem_cons_self, ih']

theorem natToDec_eq (n : Nat) : natToDec n = Nat.toDigits 10 n := by
  simp [natToDec]

theorem val_natToDec (n : Nat) : val (natToDec n) = n := by
  rw [val_eq_ofDigitChars, natToDec_eq, Nat.ofDigitChars_ten_toDigits]

theorem natToDec_ne_nil (n : Nat) : natToDec n ≠ [] := by
  rw [natToDec_eq]
  exact Nat.toDigits_ne_nil

theorem natToDec_isDigit (n : Nat) : ∀ c ∈ natToDec n, Dur.isDigit c = true := by
  intro c hc
  rw [natToDec_eq] at hc
  have := Nat.isDigit_of_mem_toDigits (by decide) (by decide) hc
  -- core's `Char.isDigit` is the same test, on `c.val`
  exact (isDigit_iff_toNat c).2 (by simpa [Char.isDigit, UInt32.le_iff_toNat_le] using this)

theorem natToDec_length_le (n w : Nat) (hw : 0 < w) : (natToDec n).length ≤ w ↔ n < 10 ^ w := by
  rw [natToDec_eq]
  exact Nat.length_toDigits_le_iff (by decide) hw

theorem dur_digitsToNat (cs : List Char) : Dur.digitsToNat cs = val cs := rfl

theorem f64_takeDigits (s : List Char) : F64.takeDigits s = Dur.takeDigits s := by
  induction s with
  | nil => rfl
  | cons c cs ih =>
    rw [F64.takeDigits, Dur.takeDigits, ih]
    rfl

end Cel.Lemmas.DecText
