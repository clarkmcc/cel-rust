import CelModel.Lemmas.CmpLemmas
/-!
# `EInt.cmp` is a linear order; the int/double comparison helper compares exact keys

`EInt.cmp` is the lexicographic comparison of (class, value) (`EInt.cmp_eq_compareLex`), so its laws
are instances of `Std.TransCmp` and `Std.LawfulEqCmp`.  `cmpIntD_fin` says that `cmpIntD`, which
truncates the double and looks at the dropped fraction, compares the two numbers scaled by `2^1074`.
-/
namespace Cel
namespace F64

@[simp] theorem EInt.cmp_fin_fin (a b : Int) : EInt.cmp (.fin a) (.fin b) = compare a b := rfl
@[simp] theorem EInt.cmp_fin_negInf (a : Int) : EInt.cmp (.fin a) .negInf = .gt := rfl
@[simp] theorem EInt.cmp_fin_posInf (a : Int) : EInt.cmp (.fin a) .posInf = .lt := rfl
@[simp] theorem EInt.cmp_negInf_fin (a : Int) : EInt.cmp .negInf (.fin a) = .lt := rfl
@[simp] theorem EInt.cmp_posInf_fin (a : Int) : EInt.cmp .posInf (.fin a) = .gt := rfl
@[simp] theorem EInt.cmp_negInf_negInf : EInt.cmp .negInf .negInf = .eq := rfl
@[simp] theorem EInt.cmp_posInf_posInf : EInt.cmp .posInf .posInf = .eq := rfl
@[simp] theorem EInt.cmp_negInf_posInf : EInt.cmp .negInf .posInf = .lt := rfl
@[simp] theorem EInt.cmp_posInf_negInf : EInt.cmp .posInf .negInf = .gt := rfl

/-- rank of an extended integer as a pair ordered lexicographically: (class, value) -/
def EInt.cls : EInt → Int
  | .negInf => -1 | .fin _ => 0 | .posInf => 1
def EInt.val : EInt → Int
  | .fin z => z | _ => 0

theorem EInt.ext_cls_val {x y : EInt} (h1 : x.cls = y.cls) (h2 : x.val = y.val) : x = y := by
  cases x <;> cases y <;> simp_all [EInt.cls, EInt.val]

theorem EInt.cmp_eq_compareLex :
    EInt.cmp = compareLex (compareOn EInt.cls) (compareOn EInt.val) := by
  funext x y
  cases x <;> cases y <;> first | rfl | exact (Ordering.eq_then _).symm

instance : Std.TransCmp EInt.cmp := EInt.cmp_eq_compareLex ▸ inferInstance
instance : Std.LawfulEqCmp EInt.cmp where
  eq_of_compare h := by
    rw [EInt.cmp_eq_compareLex, compareLex_eq_eq] at h
    exact EInt.ext_cls_val (Std.compare_eq_iff_eq.1 h.1) (Std.compare_eq_iff_eq.1 h.2)

theorem EInt.cmp_swap (x y : EInt) : EInt.cmp y x = Ordering.rev (EInt.cmp x y) :=
  cmp_swap_rev x y

theorem EInt.cmp_trans (x y z : EInt) (o : Ordering) (h1 : EInt.cmp x y = o) (h2 : EInt.cmp y z = o) :
    EInt.cmp x z = o :=
  cmp_trans_of_eq h1 h2

theorem EInt.cmp_refl (x : EInt) : EInt.cmp x x = .eq := Std.ReflCmp.compare_self

theorem icmp_mul_right {a b c : Int} (hc : 0 < c) : compare (a * c) (b * c) = compare a b := by
  rcases Int.lt_trichotomy a b with h | h | h
  · rw [Int.compare_eq_lt.2 h, Int.compare_eq_lt.2 (Int.mul_lt_mul_of_pos_right h hc)]
  · subst h; rw [Int.compare_eq_eq.2 rfl, Int.compare_eq_eq.2 rfl]
  · rw [Int.compare_eq_gt.2 h, Int.compare_eq_gt.2 (Int.mul_lt_mul_of_pos_right h hc)]

theorem twoScale_pos : 0 < twoScale := by
  unfold twoScale
  exact Int.pow_pos (by decide)

theorem sgn_mul (neg : Bool) (a c : Int) : sgn neg (a * c) = sgn neg a * c := by
  cases neg <;> simp [sgn, Int.neg_mul]

theorem cmp_core_pos (i q : Int) {r P : Int} (hr0 : 0 ≤ r) (hr : r < P) :
    compare (i * P) (q * P + r) =
      (match compare i q with
       | .lt => Ordering.lt
       | .gt => Ordering.gt
       | .eq => if r ≠ 0 then .lt else .eq) := by
  rcases Int.lt_trichotomy i q with h | h | h
  · rw [Int.compare_eq_lt.2 h]
    have h1 : (i + 1) * P ≤ q * P := Int.mul_le_mul_of_nonneg_right (by omega) (by omega)
    rw [Int.add_mul, Int.one_mul] at h1
    exact Int.compare_eq_lt.2 (by omega)
  · subst h
    rw [Int.compare_eq_eq.2 rfl]
    by_cases hz : r = 0
    · simp [hz]
    · simp only [ne_eq, hz, not_false_eq_true, if_true]
      exact Int.compare_eq_lt.2 (by omega)
  · rw [Int.compare_eq_gt.2 h]
    have h1 : (q + 1) * P ≤ i * P := Int.mul_le_mul_of_nonneg_right (by omega) (by omega)
    rw [Int.add_mul, Int.one_mul] at h1
    exact Int.compare_eq_gt.2 (by omega)

theorem cmp_core_neg (i q : Int) {r P : Int} (hr0 : 0 ≤ r) (hr : r < P) :
    compare (i * P) (-(q * P + r)) =
      (match compare i (-q) with
       | .lt => Ordering.lt
       | .gt => Ordering.gt
       | .eq => if r ≠ 0 then .gt else .eq) := by
  rcases Int.lt_trichotomy i (-q) with h | h | h
  · rw [Int.compare_eq_lt.2 h]
    have h1 : (i + 1) * P ≤ (-q) * P := Int.mul_le_mul_of_nonneg_right (by omega) (by omega)
    rw [Int.add_mul, Int.one_mul, Int.neg_mul] at h1
    exact Int.compare_eq_lt.2 (by omega)
  · subst h
    rw [Int.compare_eq_eq.2 rfl]
    rw [Int.neg_mul]
    by_cases hz : r = 0
    · simp [hz]
    · simp only [ne_eq, hz, not_false_eq_true, if_true]
      exact Int.compare_eq_gt.2 (by omega)
  · rw [Int.compare_eq_gt.2 h]
    have h1 : (-q + 1) * P ≤ i * P := Int.mul_le_mul_of_nonneg_right (by omega) (by omega)
    rw [Int.add_mul, Int.one_mul, Int.neg_mul] at h1
    exact Int.compare_eq_gt.2 (by omega)

/-- both sides are scaled by `2^1074`; for `e < 0` write `m = q · 2^k + r` with `k = -e`, so that `i`
is compared with `q` and a tie is decided by `r ≠ 0` (`cmp_core_pos`, `cmp_core_neg`) -/
theorem cmpIntD_fin (i : Int) (neg : Bool) (m : Nat) (e : Int) (he : -1074 ≤ e) :
    cmpIntD i (.fin neg m e) =
      some (EInt.cmp (keyI i) (.fin (sgn neg ((m : Int) * 2 ^ (e + 1074).toNat)))) := by
  by_cases h0 : 0 ≤ e
  · obtain ⟨n, rfl⟩ := Int.eq_ofNat_of_zero_le h0
    have hpow : (2:Int) ^ ((n:Int) + 1074).toNat = 2 ^ n * twoScale := by
      have h : ((n:Int) + 1074).toNat = n + 1074 := by omega
      rw [h, Int.pow_add]; rfl
    have hT := twoScale_pos
    rw [hpow, ← Int.mul_assoc, sgn_mul]
    simp only [cmpIntD, truncMag, fracNonzero, keyI, EInt.cmp_fin_fin, ge_iff_le, h0, if_true,
      Int.toNat_natCast, Bool.false_eq_true, if_false]
    rw [icmp_mul_right hT]
    simp only [Int.natCast_mul, Int.natCast_pow, Int.cast_ofNat_Int]
    cases compare i _ <;> rfl
  · have hk : ∃ k : Nat, e = -(k:Int) ∧ 0 < k ∧ k ≤ 1074 := ⟨(-e).toNat, by omega, by omega, by omega⟩
    obtain ⟨k, rfl, hk0, hk1⟩ := hk
    have h1 : (-(k:Int) + 1074).toNat = 1074 - k := by omega
    have h2 : (- -(k:Int)).toNat = k := by omega
    have hT : twoScale = (2:Int) ^ k * 2 ^ (1074 - k) := by
      rw [← Int.pow_add]
      have h : k + (1074 - k) = 1074 := by omega
      rw [h]; rfl
    have hR : (0:Int) < 2 ^ (1074 - k) := Int.pow_pos (by decide)
    have hPn : 0 < 2 ^ k := Nat.two_pow_pos k
    have hm : (m : Int) = ((m / 2 ^ k : Nat) : Int) * 2 ^ k + ((m % 2 ^ k : Nat) : Int) := by
      have h := Nat.div_add_mod m (2 ^ k)
      have h' : ((2 ^ k * (m / 2 ^ k) + m % 2 ^ k : Nat) : Int) = (m : Int) := by rw [h]
      rw [Int.natCast_add, Int.natCast_mul, Int.natCast_pow] at h'
      rw [← h', Int.mul_comm]; rfl
    have hr0 : (0:Int) ≤ ((m % 2 ^ k : Nat) : Int) := Int.natCast_nonneg _
    have hr1 : ((m % 2 ^ k : Nat) : Int) < 2 ^ k := by
      have h := Nat.mod_lt m hPn
      have h' : ((m % 2 ^ k : Nat) : Int) < ((2 ^ k : Nat) : Int) := Int.ofNat_lt.2 h
      rw [Int.natCast_pow] at h'
      exact h'
    have hneg : ¬ (0 ≤ -(k:Int)) := by omega
    simp only [cmpIntD, truncMag, fracNonzero, keyI, EInt.cmp_fin_fin, ge_iff_le, hneg, if_false,
      h1, h2]
    rw [hT, ← Int.mul_assoc, sgn_mul, icmp_mul_right hR]
    generalize hq : ((m / 2 ^ k : Nat) : Int) = q at hm
    generalize hr : ((m % 2 ^ k : Nat) : Int) = r at hm hr0 hr1
    have hrz : (m % 2 ^ k != 0) = decide (r ≠ 0) := by
      subst hr
      cases m % 2 ^ k <;> rfl
    rw [hm, hrz]
    cases neg
    · simp only [sgn, Bool.false_eq_true, if_false]
      rw [cmp_core_pos i q hr0 hr1]
      by_cases hz : r = 0 <;> cases compare i q <;> simp [hz]
    · simp only [sgn, if_true]
      rw [cmp_core_neg i q hr0 hr1]
      by_cases hz : r = 0 <;> cases compare i (-q) <;> simp [hz]

end F64
end Cel
