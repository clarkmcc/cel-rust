import CelModel.Eval
import CelModel.ArcHeap
/-!
# Association lists with replace-or-append insertion

`MapV.find?`/`MapV.insert`, `Serde.objInsert`, `Ctx.lookupScope`/`Ctx.scopeInsert` and
`ArcHeap.lookup`/`ArcHeap.update` are the same two functions at different types.  What holds of the
pair by itself (lookup after insertion, insertion of a fresh or of a present key, the keys and their
distinctness, a fold of insertions) is proved once, for `AList.find` / `AList.insert`; each model
function is shown equal to the generic one where it is used (here for `MapV`, `ArcHeap` and scopes).
What relates a map to something else is proved on `MapV` where it is needed: membership
(`Typing.mem_insert`, `Typing.find?_mem_key`) and the entry-wise relations to a JSON object
(`Serde.Lemmas.Rel.insert`, `C18.rt_find`).  For scopes also what pushing one does to
`Ctx.getVariable` (`Ctx.getVariable_push`).
-/
namespace Cel
namespace AList
variable {κ ν : Type} [DecidableEq κ]

def find : List (κ × ν) → κ → Option ν
  | [], _ => none
  | (k', v) :: rest, k => if k' = k then some v else find rest k

def insert : List (κ × ν) → κ → ν → List (κ × ν)
  | [], k, v => [(k, v)]
  | (k', v') :: rest, k, v => if k' = k then (k, v) :: rest else (k', v') :: insert rest k v

theorem find_eq_find? (l : List (κ × ν)) (k : κ) :
    find l k = (l.find? (fun kv => kv.1 == k)).map (·.2) := by
  fun_induction find l k with
  | case1 => rfl
  | case2 =>
    rw [List.find?_cons, beq_self_eq_true]
    rfl
  | case3 k0 v rest k h ih => rw [List.find?_cons, beq_eq_false_iff_ne.2 h, ih]

theorem find_insert (m : List (κ × ν)) (k k' : κ) (v : ν) :
    find (insert m k v) k' = if k' = k then some v else find m k' := by
  fun_induction insert m k v with
  | case1 => simp only [find, eq_comm]
  | case2 =>
    simp only [find, eq_comm]
    split <;> rfl
  | case3 k0 v0 rest k v h0 ih =>
    simp only [find, ih]
    split
    · subst k0; rw [if_neg h0]
    · rfl

theorem insert_of_not_mem (l : List (κ × ν)) (k : κ) (v : ν) (h : k ∉ l.map (·.1)) :
    insert l k v = l ++ [(k, v)] := by
  induction l with
  | nil => rfl
  | cons p rest ih =>
    simp only [List.map_cons, List.mem_cons, not_or] at h
    simp only [insert, if_neg (Ne.symm h.1), ih h.2, List.cons_append]

theorem keys_insert_of_mem (l : List (κ × ν)) (k : κ) (v : ν) : k ∈ l.map (·.1) →
    (insert l k v).map (·.1) = l.map (·.1) := by
  fun_induction insert l k v with
  | case1 => exact nofun
  | case2 => exact fun _ => rfl
  | case3 k0 v0 rest k v e ih =>
    intro h
    simp only [List.map_cons, List.mem_cons] at h
    simp only [List.map_cons, ih (h.resolve_left (Ne.symm e))]

theorem nodup_keys_insert (l : List (κ × ν)) (k : κ) (v : ν) (h : (l.map (·.1)).Nodup) :
    ((insert l k v).map (·.1)).Nodup := by
  by_cases hk : k ∈ l.map (·.1)
  · rw [keys_insert_of_mem l k v hk]
    exact h
  · rw [insert_of_not_mem l k v hk, List.map_append, List.nodup_append]
    refine ⟨h, List.pairwise_singleton _ _, ?_⟩
    intro a ha b hb e
    have e : a = k := e.trans (List.mem_singleton.1 hb)
    exact hk (e ▸ ha)

theorem foldl_insert_of_nodup (l acc : List (κ × ν))
    (h : (acc.map (·.1) ++ l.map (·.1)).Nodup) :
    l.foldl (fun m kv => insert m kv.1 kv.2) acc = acc ++ l := by
  induction l generalizing acc with
  | nil => rw [List.foldl_nil, List.append_nil]
  | cons kv rest ih =>
    have hfresh : kv.1 ∉ acc.map (·.1) := by
      intro hm
      rw [List.map_cons, List.nodup_append] at h
      exact h.2.2 _ hm _ List.mem_cons_self rfl
    rw [List.foldl_cons, insert_of_not_mem acc kv.1 kv.2 hfresh, ih _ (by simpa using h),
      List.append_assoc]
    rfl

end AList

theorem MapV.find?_eq_alist : MapV.find? = AList.find := by
  funext m k
  induction m with
  | nil => rfl
  | cons kv rest ih => simp only [MapV.find?, AList.find, ih]

theorem MapV.insert_eq_alist : MapV.insert = AList.insert := by
  funext m k v
  induction m with
  | nil => rfl
  | cons kv rest ih => simp only [MapV.insert, AList.insert, ih]

theorem MapV.find?_insert (m : MapV) (k k' : Key) (v : Value) :
    MapV.find? (MapV.insert m k v) k' = if k' = k then some v else MapV.find? m k' := by
  rw [MapV.find?_eq_alist, MapV.insert_eq_alist]
  exact AList.find_insert m k k' v

theorem ArcHeap.lookup_eq_alist : ArcHeap.lookup = AList.find := by
  funext m a
  induction m with
  | nil => rfl
  | cons x rest ih => simp only [ArcHeap.lookup, AList.find, ih]

theorem ArcHeap.update_eq_alist : ArcHeap.update = AList.insert := by
  funext m a c
  induction m with
  | nil => rfl
  | cons x rest ih => simp only [ArcHeap.update, AList.insert, ih]

theorem Ctx.lookupScope_eq_alist : Ctx.lookupScope = AList.find := by
  funext s n
  induction s with
  | nil => rfl
  | cons kv rest ih => simp only [Ctx.lookupScope, AList.find, beq_iff_eq, ih]

theorem Ctx.scopeInsert_eq_alist : Ctx.scopeInsert = AList.insert := by
  funext s n v
  induction s with
  | nil => rfl
  | cons kv rest ih => simp only [Ctx.scopeInsert, AList.insert, beq_iff_eq, ih]

theorem Ctx.lookup_scopeInsert (s : Scope) (n m : String) (v : Value) :
    Ctx.lookupScope (Ctx.scopeInsert s n v) m =
      if m = n then some v else Ctx.lookupScope s m := by
  rw [Ctx.lookupScope_eq_alist, Ctx.scopeInsert_eq_alist]
  exact AList.find_insert s n m v

theorem Ctx.getVariable_push (ctx : Ctx) (sc : Scope) (n : String) :
    (ctx.push sc).getVariable n =
      match Ctx.lookupScope sc n with
      | some v => some v
      | none => ctx.getVariable n := by
  simp only [Ctx.push, Ctx.getVariable, Ctx.getVar]
  cases Ctx.lookupScope sc n <;> rfl

theorem Ctx.getVariable_push_of_lookup (ctx : Ctx) {sc : Scope} {n : String} {v : Value}
    (h : Ctx.lookupScope sc n = some v) : (ctx.push sc).getVariable n = some v := by
  rw [Ctx.getVariable_push, h]

theorem Ctx.lookup_scopeInsert_self (s : Scope) (n : String) (v : Value) :
    (Ctx.lookupScope (Ctx.scopeInsert s n v) n).isSome = true := by
  rw [Ctx.lookup_scopeInsert, if_pos rfl]
  rfl

theorem Ctx.lookup_scopeInsert_isSome (s : Scope) (n m : String) (v : Value)
    (h : (Ctx.lookupScope s m).isSome = true) :
    (Ctx.lookupScope (Ctx.scopeInsert s n v) m).isSome = true := by
  rw [Ctx.lookup_scopeInsert]
  split
  · rfl
  · exact h

theorem Ctx.getVariable_push_isSome_of_lookup (ctx : Ctx) (sc : Scope) (n : String)
    (h : (Ctx.lookupScope sc n).isSome = true) : ((ctx.push sc).getVariable n).isSome = true := by
  obtain ⟨v, hv⟩ := Option.isSome_iff_exists.1 h
  rw [Ctx.getVariable_push_of_lookup ctx hv]
  rfl

theorem Ctx.getVariable_push_isSome (ctx : Ctx) (sc : Scope) (n : String)
    (h : (ctx.getVariable n).isSome = true) : ((ctx.push sc).getVariable n).isSome = true := by
  rw [Ctx.getVariable_push]
  cases hl : Ctx.lookupScope sc n with
  | none => exact h
  | some v => rfl

theorem Ctx.getVariable_push_none (ctx : Ctx) (sc : Scope) (n : String)
    (h : (ctx.push sc).getVariable n = none) : ctx.getVariable n = none := by
  rw [Ctx.getVariable_push] at h
  split at h
  · cases h
  · exact h

end Cel
