import CelModel.Macros
/-!
# Macro expansion: the successful cases

`Macros.expand` answers `.ok` in seven ways; `expand_ok_elim` is the case distinction, made once.
-/
namespace Cel.Macros

theorem expand_ok_elim {P : Option Expr → List Expr → Expr → Prop}
    (has : ∀ o fld t, P none [.select o fld t] (.select o fld true))
    (all : ∀ t n p, P (some t) [.ident n, p] (expandAll n t p))
    (exist : ∀ t n p, P (some t) [.ident n, p] (expandExists n t p))
    (existsOne : ∀ t n p, P (some t) [.ident n, p] (expandExistsOne n t p))
    (map : ∀ t n p, P (some t) [.ident n, p] (expandMap n t p))
    (filter : ∀ t n p, P (some t) [.ident n, p] (expandFilter n t p))
    (mapFilter : ∀ t n p fn, P (some t) [.ident n, p, fn] (expandMapFilter n t p fn))
    {f : String} {target : Option Expr} {args : List Expr} {e : Expr}
    (h : expand f target args = .ok e) : P target args e := by
  revert h
  -- in the order of `expand`'s arms: case 1 `has`; 4–8 `all`, `exists`, `exists_one`, `map`,
  -- `filter`; 11 the three-argument `map`
  fun_cases expand f target args
  case case1 a e' _ he =>
    rintro ⟨⟩
    cases a <;> cases he
    exact has ..
  case case4 => exact fun h => ExpandResult.ok.inj h ▸ all ..
  case case5 => exact fun h => ExpandResult.ok.inj h ▸ exist ..
  case case6 => exact fun h => ExpandResult.ok.inj h ▸ existsOne ..
  case case7 => exact fun h => ExpandResult.ok.inj h ▸ map ..
  case case8 => exact fun h => ExpandResult.ok.inj h ▸ filter ..
  case case11 => exact fun h => ExpandResult.ok.inj h ▸ mapFilter ..
  -- the other arms answer `.error` or `.notMacro`
  all_goals exact nofun

end Cel.Macros
