import CelModel.Lemmas.AList
/-!
# The reference-counted heap (`Cel.ArcHeap`) and thread systems (`Cel.Threads`)

Every heap operation overwrites one cell and changes the multiset of handles at that address only;
`read_update` and `Inv.of_update` say what that does to reads and to the invariant, and the
operations are instances.
-/
namespace Cel.ArcHeap

theorem lookup_update (m : List (Addr × Cell)) (a : Addr) (c : Cell) (b : Addr) :
    lookup (update m a c) b = if b = a then some c else lookup m b := by
  rw [lookup_eq_alist, update_eq_alist, AList.find_insert]

theorem lookup_update_self (m : List (Addr × Cell)) (a : Addr) (c : Cell) :
    lookup (update m a c) a = some c := by
  simp [lookup_update]

theorem lookup_update_ne (m : List (Addr × Cell)) (a : Addr) (c : Cell) (b : Addr) (h : b ≠ a) :
    lookup (update m a c) b = lookup m b := by
  simp [lookup_update, h]

theorem removeOne_eq_erase (l : List Addr) (x : Addr) : removeOne l x = l.erase x := by
  induction l with
  | nil => rfl
  | cons a rest ih =>
    rw [removeOne, List.erase_cons, ih]
    simp only [beq_iff_eq]

theorem count_removeOne (l : List Addr) (x y : Addr) :
    (removeOne l x).count y = if y = x then l.count y - 1 else l.count y := by
  rw [removeOne_eq_erase, List.count_erase]
  by_cases h : y = x
  · simp [h]
  · simp [h, Ne.symm h]

theorem mem_of_mem_removeOne {l : List Addr} {x a : Addr} (h : a ∈ removeOne l x) : a ∈ l :=
  List.mem_of_mem_erase (removeOne_eq_erase l x ▸ h)

theorem mem_removeOne_of_ne {l : List Addr} {x a : Addr} (h : a ∈ l) (hne : a ≠ x) :
    a ∈ removeOne l x :=
  removeOne_eq_erase l x ▸ (List.mem_erase_of_ne hne).2 h

theorem ne_of_mem_removeOne_of_count_le_one {l : List Addr} {x a : Addr}
    (h : a ∈ removeOne l x) (hc : l.count x ≤ 1) : a ≠ x := by
  intro e
  subst e
  rw [← List.count_pos_iff, count_removeOne, if_pos rfl] at h
  omega

theorem read_update (s : State) (x : Addr) (c : Cell) (live : List Addr) (next a : Addr) :
    read { heap := update s.heap x c, live := live, next := next } a =
      if a = x then some c.payload else read s a := by
  simp only [read, lookup_update]
  split <;> rfl

theorem read_update_same {s : State} {x : Addr} {cx c : Cell} (hcx : lookup s.heap x = some cx)
    (hp : c.payload = cx.payload) {live : List Addr} {next a : Addr} :
    read { heap := update s.heap x c, live := live, next := next } a = read s a := by
  rw [read_update]
  split
  · next e => rw [e, read, hcx, hp]; rfl
  · rfl

theorem read_drop (s : State) (h a : Addr) : read (drop s h) a = read s a := by
  unfold drop
  cases hc : lookup s.heap h with
  | none => rfl
  | some c =>
    refine read_update_same hc ?_
    rfl

theorem read_clone (s : State) (h a : Addr) : read (clone s h) a = read s a := by
  unfold clone
  cases hc : lookup s.heap h with
  | none => rfl
  | some c =>
    refine read_update_same hc ?_
    rfl

theorem read_alloc (s : State) (p : List Nat) (a : Addr) :
    read (alloc s p).1 a = if a = s.next then some p else read s a :=
  read_update s s.next _ _ _ a

theorem drop_next (s : State) (h : Addr) : (drop s h).next = s.next := by
  unfold drop
  cases lookup s.heap h <;> rfl

theorem drop_live {s : State} {h : Addr} {c : Cell} (hc : lookup s.heap h = some c) :
    (drop s h).live = removeOne s.live h := by
  unfold drop
  rw [hc]

theorem concat_unique {s : State} {h1 h2 : Addr} {c1 c2 : Cell}
    (hc1 : lookup s.heap h1 = some c1) (hc2 : lookup s.heap h2 = some c2) (hu : c1.rc = 1) :
    concat s h1 h2 =
      (drop { s with heap := update s.heap h1 { c1 with payload := c1.payload ++ c2.payload } } h2,
        h1) := by
  unfold concat
  rw [hc1, hc2]
  simp [hu]

theorem concat_shared {s : State} {h1 h2 : Addr} {c1 c2 : Cell}
    (hc1 : lookup s.heap h1 = some c1) (hc2 : lookup s.heap h2 = some c2) (hu : c1.rc ≠ 1) :
    concat s h1 h2 =
      (drop (alloc (drop s h1) (c1.payload ++ c2.payload)).1 h2,
        (alloc (drop s h1) (c1.payload ++ c2.payload)).2) := by
  unfold concat
  rw [hc1, hc2]
  simp [hu]

theorem read_concat {s : State} {h1 h2 : Addr} {c1 c2 : Cell}
    (hc1 : lookup s.heap h1 = some c1) (hc2 : lookup s.heap h2 = some c2) (a : Addr) :
    read (concat s h1 h2).1 a =
      if a = (concat s h1 h2).2 then some (c1.payload ++ c2.payload) else read s a := by
  by_cases hu : c1.rc = 1
  · rw [concat_unique hc1 hc2 hu, read_drop, read_update]
  · rw [concat_shared hc1 hc2 hu, read_drop, read_alloc, read_drop]
    simp only [alloc, drop_next]

theorem Inv.lookup_of_mem {s : State} (h : Inv s) {a : Addr} (ha : a ∈ s.live) :
    ∃ c, lookup s.heap a = some c :=
  Option.isSome_iff_exists.1 (h.2.1 a ha)

theorem Inv.lt_next_of_mem {s : State} (h : Inv s) {a : Addr} (ha : a ∈ s.live) : a < s.next := by
  obtain ⟨c, hc⟩ := h.lookup_of_mem ha
  exact h.2.2 a c hc

theorem Inv.next_not_mem {s : State} (h : Inv s) : s.next ∉ s.live :=
  fun hm => Nat.lt_irrefl _ (h.lt_next_of_mem hm)

/-- the invariant survives overwriting the cell at `x` and changing the handles at `x` only,
when the new count is the new multiplicity of `x` -/
theorem Inv.of_update {s : State} (h : Inv s) {x : Addr} {c : Cell} {live : List Addr} {next : Addr}
    (hx : c.rc = live.count x) (hother : ∀ a, a ≠ x → live.count a = s.live.count a)
    (hlt : x < next) (hle : s.next ≤ next) :
    Inv { heap := update s.heap x c, live := live, next := next } := by
  refine ⟨?_, ?_, ?_⟩
  · intro a c' hc
    rw [lookup_update] at hc
    split at hc
    · next e =>
      cases hc
      rw [e]
      exact hx
    · next e =>
      rw [hother a e]
      exact h.1 a c' hc
  · intro a ha
    rw [lookup_update]
    split
    · rfl
    · next e =>
      rw [← List.count_pos_iff, hother a e, List.count_pos_iff] at ha
      exact h.2.1 a ha
  · intro a c' hc
    rw [lookup_update] at hc
    split at hc
    · next e =>
      rw [e]
      exact hlt
    · exact Nat.lt_of_lt_of_le (h.2.2 a c' hc) hle

theorem Inv.setPayload {s : State} (h : Inv s) {x : Addr} {cx : Cell}
    (hcx : lookup s.heap x = some cx) {p : List Nat} :
    Inv { s with heap := update s.heap x { cx with payload := p } } :=
  h.of_update (h.1 x cx hcx) (fun _ _ => rfl) (h.2.2 x cx hcx) (Nat.le_refl _)

end Cel.ArcHeap

namespace Cel.Threads

theorem iterate_succ (f : α → α) (n : Nat) (x : α) : iterate f (n + 1) x = iterate f n (f x) := rfl

theorem run_shared {σ τ : Type} (step : σ → τ → τ) (sys : System σ τ) (sched : List Nat) :
    (run step sys sched).shared = sys.shared := by
  induction sched generalizing sys with
  | nil => rfl
  | cons j rest ih =>
    simp only [run]
    rw [ih]
    rfl

theorem run_locals_getElem? {σ τ : Type} (step : σ → τ → τ) (sys : System σ τ) (sched : List Nat)
    (i : Nat) :
    (run step sys sched).locals[i]? =
      (sys.locals[i]?).map (iterate (step sys.shared) (sched.count i)) := by
  induction sched generalizing sys with
  | nil =>
    simp only [run, List.count_nil]
    cases sys.locals[i]? <;> rfl
  | cons j rest ih =>
    simp only [run]
    rw [ih]
    simp only [stepThread, List.getElem?_modify, List.count_cons]
    by_cases e : j = i
    · subst e
      cases sys.locals[j]? <;> simp [iterate_succ]
    · cases sys.locals[i]? <;> simp [e]

end Cel.Threads
