import CelModel.Lemmas.Sat
/-!
# `Sat` rules of the type-soundness proof (`Props/C03Types.lean`) that do not mention types

Their post-conditions speak of the value returned, which a closed family (`Lemmas/Closed.lean`)
cannot: `evalList` / `evalEntries` element-wise, one parameter of `extract`, an invariant for the
comprehension loop.  With them the membership facts about `MapV` that the map cases need.
-/
namespace Cel.Typing

theorem evalList_sat {Q : Value → Prop} {E : ErrC → Prop} (ctx : Ctx) (es : List Expr)
    (h : ∀ e ∈ es, Sat (eval ctx e) Q E) :
    Sat (evalList ctx es) (fun vs => ∀ v ∈ vs, Q v) E := by
  induction es with
  | nil =>
    rw [evalList_nil]
    exact Sat.pure (fun _ hv => nomatch hv)
  | cons e es ih =>
    rw [evalList_cons]
    apply Sat.bind (h e (List.mem_cons_self ..)); intro v hv
    apply Sat.bind (ih (fun e' he' => h e' (List.mem_cons_of_mem _ he'))); intro vs hvs
    apply Sat.pure
    intro x hx
    rcases List.mem_cons.mp hx with rfl | hx
    · exact hv
    · exact hvs x hx

theorem mem_insert {m : MapV} {k : Key} {v : Value} {kv : Key × Value}
    (h : kv ∈ MapV.insert m k v) : kv ∈ m ∨ kv = (k, v) := by
  revert h
  -- cases: the empty map, the key at the head, the key searched in the tail
  fun_induction MapV.insert m k v
  case case1 => exact fun h => .inr (List.mem_singleton.1 h)
  case case2 =>
    intro h
    rcases List.mem_cons.mp h with h | h
    · exact .inr h
    · exact .inl (List.mem_cons_of_mem _ h)
  case case3 ih =>
    intro h
    rcases List.mem_cons.mp h with h | h
    · exact .inl (h ▸ List.mem_cons_self ..)
    · exact (ih h).imp_left (List.mem_cons_of_mem _)

theorem find?_mem_key {m : MapV} {k : Key} {v : Value} (h : MapV.find? m k = some v) :
    (k, v) ∈ m := by
  revert h
  -- cases as for `MapV.insert`
  fun_induction MapV.find? m k
  case case1 => exact nofun
  case case2 => exact fun h => Option.some.inj h ▸ List.mem_cons_self ..
  case case3 ih => exact fun h => List.mem_cons_of_mem _ (ih h)

theorem find?_mem {m : MapV} {k : Key} {v : Value} (h : MapV.find? m k = some v) :
    ∃ k', (k', v) ∈ m :=
  ⟨k, find?_mem_key h⟩

theorem get_mem {m : MapV} {k : Key} {v : Value} (h : MapV.get m k = some v) :
    ∃ k', (k', v) ∈ m := by
  revert h
  -- case 1: found as it is; cases 2, 4: found under the int / uint twin
  fun_cases MapV.get m k
  -- found under `k` itself; under the `uint` twin of an `int` key; under the `int` twin of a `uint` key
  case case1 w hw => exact fun h => Option.some.inj h ▸ find?_mem hw
  case case2 => exact find?_mem
  case case4 => exact find?_mem
  -- the twin is out of range, or the key is not numeric
  all_goals exact nofun

theorem toKey?_toValue {v : Value} {k : Key} (h : v.toKey? = some k) : k.toValue = v := by
  revert h
  fun_cases Value.toKey? v
  all_goals rintro ⟨⟩ <;> rfl

theorem evalEntries_sat {QK QV : Value → Prop} {E : ErrC → Prop} (ctx : Ctx)
    (es : List (Expr × Expr))
    (hk : ∀ kv ∈ es, Sat (eval ctx kv.1) QK E) (hv : ∀ kv ∈ es, Sat (eval ctx kv.2) QV E)
    (hkey : ∀ v, QK v → v.toKey? ≠ none) (acc : MapV)
    (hacc : ∀ kv ∈ acc, QK kv.1.toValue ∧ QV kv.2) :
    Sat (evalEntries ctx es acc) (fun m => ∀ kv ∈ m, QK kv.1.toValue ∧ QV kv.2) E := by
  induction es generalizing acc with
  | nil =>
    rw [evalEntries_nil]
    exact Sat.pure hacc
  | cons e es ih =>
    obtain ⟨k, v⟩ := e
    rw [evalEntries_cons]
    apply Sat.bind (hk (k, v) (List.mem_cons_self ..)); intro kv hkv
    split
    · rename_i hnone
      exact absurd hnone (hkey kv hkv)
    · rename_i key hkey'
      apply Sat.bind (hv (k, v) (List.mem_cons_self ..)); intro vv hvv
      refine ih (fun e' he' => hk e' (List.mem_cons_of_mem _ he'))
        (fun e' he' => hv e' (List.mem_cons_of_mem _ he')) _ ?_
      intro kv' hkv'
      rcases mem_insert hkv' with h | h
      · exact hacc kv' h
      · subst h
        exact ⟨by rw [toKey?_toValue hkey']; exact hkv, hvv⟩

section extract
variable {Q : Value → Prop} {E : ErrC → Prop}

theorem fetch_sat {thunks : List (EvalM Value)} {th : EvalM Value} {idx : Nat} {e : ErrC}
    {conv : Value → Outcome Value} (hget : thunks[idx]? = some th) (hth : Sat th Q E)
    (hconv : ∀ a, Q a → conv a = .ok a) :
    Sat (fetch thunks e conv idx) (fun p => Q p.1 ∧ p.2 = idx + 1) E := by
  simp only [fetch, hget]
  apply Sat.bind hth; intro a ha
  rw [hconv a ha]
  exact Sat.pure ⟨ha, rfl⟩

theorem this_recv_sat {tv : Value} {thunks : List (EvalM Value)} {argEs : List Expr} {t : ExtTy}
    {idx : Nat} (h : fromValue t tv = .ok tv) :
    Sat (extractOne (some tv) thunks argEs (.this t) idx) (fun p => tv = p.1 ∧ p.2 = idx) E := by
  show Sat (recv (fromValue t) tv idx) _ E
  rw [recv, h]
  exact Sat.pure ⟨rfl, rfl⟩

theorem this_arg_sat {thunks : List (EvalM Value)} {argEs : List Expr} {t : ExtTy} {idx : Nat}
    {th : EvalM Value} (hget : thunks[idx]? = some th) (hth : Sat th Q E)
    (h : ∀ a, Q a → fromValue t a = .ok a) :
    Sat (extractOne none thunks argEs (.this t) idx) (fun p => Q p.1 ∧ p.2 = idx + 1) E :=
  fetch_sat hget hth h

theorem pos_arg_sat {this : Option Value} {thunks : List (EvalM Value)} {argEs : List Expr}
    {t : ExtTy} {idx : Nat} {th : EvalM Value} (hget : thunks[idx]? = some th) (hth : Sat th Q E)
    (h : ∀ a, Q a → fromValue t a = .ok a) :
    Sat (extractOne this thunks argEs (.pos t) idx) (fun p => Q p.1 ∧ p.2 = idx + 1) E :=
  fetch_sat hget hth h

theorem extract_nil_sat {this : Option Value} {thunks : List (EvalM Value)} {argEs : List Expr}
    {idx : Nat} : Sat (extract this thunks argEs [] idx) (fun ps => ps = []) E := by
  rw [extract_nil]
  exact Sat.pure rfl

theorem extract_cons_sat {this : Option Value} {thunks : List (EvalM Value)} {argEs : List Expr}
    {ex : Extractor} {rest : List Extractor} {idx idx' : Nat} {R : List Value → Prop}
    (hstep : Sat (extractOne this thunks argEs ex idx) (fun p => Q p.1 ∧ p.2 = idx') E)
    (hrest : Sat (extract this thunks argEs rest idx') R E) :
    Sat (extract this thunks argEs (ex :: rest) idx)
      (fun ps => ∃ v vs, ps = v :: vs ∧ Q v ∧ R vs) E := by
  rw [extract_cons]
  apply Sat.bind hstep
  rintro ⟨v, i⟩ ⟨hv, rfl⟩
  apply Sat.bind hrest; intro vs hvs
  exact Sat.pure ⟨v, vs, rfl, hv, hvs⟩

end extract

theorem loopG_inv {E : ErrC → Prop} (iv av : String) {evCond evStep : Scope → EvalM Value}
    (I : Scope → Prop) (P : Value → Prop)
    (hc : ∀ sc, I sc → Sat (evCond sc) Any E)
    (hs : ∀ sc item, I sc → P item →
      Sat (evStep (Ctx.scopeInsert sc iv item))
        (fun acc => I (Ctx.scopeInsert (Ctx.scopeInsert sc iv item) av acc)) E)
    (items : List Value) (hitems : ∀ x ∈ items, P x) (sc : Scope) (hsc : I sc) :
    Sat (loopG iv av evCond evStep items sc) I E := by
  induction items generalizing sc with
  | nil =>
    rw [loopG_nil]
    exact Sat.pure hsc
  | cons item rest ih =>
    rw [loopG_cons]
    apply Sat.bind (hc sc hsc); intro c _
    split
    · exact Sat.pure hsc
    · apply Sat.bind (hs sc item hsc (hitems item (List.mem_cons_self ..))); intro acc hacc
      exact ih (fun x hx => hitems x (List.mem_cons_of_mem _ hx)) _ hacc

theorem getFunction_push (ctx : Ctx) (sc : Scope) (f : String) :
    (ctx.push sc).getFunction f = ctx.getFunction f := rfl

theorem hasFunction_push (ctx : Ctx) (sc : Scope) (f : String) :
    (ctx.push sc).hasFunction f = ctx.hasFunction f := rfl

end Cel.Typing
