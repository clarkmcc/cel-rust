import CelModel.Lemmas.ParserLevels
/-!
# The grammar as a closure principle

A family of predicates that is closed under the productions of the grammar (`Closed`, one field per
production) holds of everything the nineteen parser functions return (`Closed.holds`, by one
simultaneous induction on the fuel).
-/
namespace Cel.Lemmas.ParserClosed
open Cel.Lexer Cel.Parser Cel.Lemmas.ParserLevels

def IsBinOp (s op : String) : Prop := relOpName s = some op ∨ addOpName s = some op ∨ mulOpName s = some op

def Dotted (dot : Bool) (ts ts' : Toks) : Prop := (dot = true ∧ ts = .sym "." :: ts') ∨ (dot = false ∧ ts = ts')

/-- Six predicates, one per kind of parser function, each read "on these tokens (first argument) this
was returned, leaving those (last argument)"; the accumulator of a loop stands before its result.
`E`: the functions returning a tree; `A`: the loops threading a tree (`loopL`, `parseSuffix`); `LA`:
`loopLogic`, operands in reverse; `L c`: the sequence up to the closing symbol `c` (`parseArgs`,
`parseListElems`); `M`: `parseMapEntries`; `F`: `parseFields`. -/
structure Closed
    (E : Toks → Expr → Toks → Prop)
    (A : Toks → Expr → Expr → Toks → Prop)
    (LA : Toks → List Expr → List Expr → Toks → Prop)
    (L : String → Toks → List Expr → Toks → Prop)
    (M : Toks → List (Expr × Expr) → Toks → Prop)
    (F : Toks → List Str → List Expr → Toks → Prop) : Prop where
  -- expr : conditionalOr ('?' conditionalOr ':' expr)?
  cond : ∀ {ts r r2 r3 c a b}, E ts c (.sym "?" :: r) → E r a (.sym ":" :: r2) → E r2 b r3 →
    E ts (.call "_?_:_" [c, a, b]) r3
  -- sub (tok sub)*
  logic : ∀ {ts r r' t terms} (op : String), E ts t r → LA r [t] terms r' → E ts (logicExpr op terms.reverse) r'
  logicMore : ∀ {tok r r' rest t acc res}, tok = "||" ∨ tok = "&&" → E r t r' → LA r' (t :: acc) res rest →
    LA (.sym tok :: r) acc res rest
  logicStop : ∀ {ts acc}, LA ts acc acc ts
  -- sub (op sub)*, and member : primary suffix*
  thread : ∀ {ts r rest l e}, E ts l r → A r l e rest → E ts e rest
  binMore : ∀ {s op r r' rest l rhs e}, IsBinOp s op → E r rhs r' → A r' (.call op [l, rhs]) e rest →
    A (.sym s :: r) l e rest
  stop : ∀ {ts l}, A ts l l ts
  prefixOp : ∀ {s op ts r m}, (s = "!" ∧ op = "!_") ∨ (s = "-" ∧ op = "-_") → 0 < runLen s ts →
    E (ts.drop (runLen s ts)) m r → E ts (if runLen s ts % 2 == 0 then m else .call op [m]) r
  sufCall : ∀ {f r r' rest e0 args c e}, L ")" r args r' → callOrMacro (String.ofList f) (some e0) args = some c →
    A r' c e rest → A (.sym "." :: .ident f :: .sym "(" :: r) e0 e rest
  sufSel : ∀ {tk f r rest e0 e}, tk = Tok.ident f ∨ tk = Tok.escIdent f → A r (.select e0 f false) e rest →
    A (.sym "." :: tk :: r) e0 e rest
  sufIdx : ∀ {r r' rest e0 i e}, E r i (.sym "]" :: r') → A r' (.call "_[_]" [e0, i]) e rest →
    A (.sym "[" :: r) e0 e rest
  seqNil : ∀ {c r}, c = ")" ∨ c = "]" → L c (.sym c :: r) [] r
  seqLast : ∀ {c ts r a}, c = ")" ∨ c = "]" → E ts a (.sym c :: r) → L c ts [a] r
  seqMore : ∀ {c ts r r' a as}, c = ")" ∨ c = "]" → E ts a (.sym "," :: r) → L c r as r' → L c ts (a :: as) r'
  entNil : ∀ {r}, M (.sym "}" :: r) [] r
  entLast : ∀ {ts r r2 k v}, E ts k (.sym ":" :: r) → E r v (.sym "}" :: r2) → M ts [(k, v)] r2
  entMore : ∀ {ts r r2 r3 k v es}, E ts k (.sym ":" :: r) → E r v (.sym "," :: r2) → M r2 es r3 →
    M ts ((k, v) :: es) r3
  fldNil : ∀ {r}, F (.sym "}" :: r) [] [] r
  fldLast : ∀ {tk f r r2 v}, tk = Tok.ident f ∨ tk = Tok.escIdent f → E r v (.sym "}" :: r2) →
    F (tk :: .sym ":" :: r) [f] [v] r2
  fldMore : ∀ {tk f r r2 r3 v fs vs}, tk = Tok.ident f ∨ tk = Tok.escIdent f → E r v (.sym "," :: r2) →
    F r2 fs vs r3 → F (tk :: .sym ":" :: r) (f :: fs) (v :: vs) r3
  negInt : ∀ {t r e}, intLiteral true t = some e → E (.sym "-" :: .int t :: r) e r
  negFloat : ∀ {t r e}, doubleLiteral true t = some e → E (.sym "-" :: .float t :: r) e r
  int : ∀ {t r e}, intLiteral false t = some e → E (.int t :: r) e r
  float : ∀ {t r e}, doubleLiteral false t = some e → E (.float t :: r) e r
  uint : ∀ {t r e}, uintLiteral t = some e → E (.uint t :: r) e r
  str : ∀ {t r e}, stringLiteral t = some e → E (.str t :: r) e r
  bytes : ∀ {t r e}, bytesLiteral t = some e → E (.bytes t :: r) e r
  kwTrue : ∀ {r}, E (.sym "true" :: r) (.lit (.bool true)) r
  kwFalse : ∀ {r}, E (.sym "false" :: r) (.lit (.bool false)) r
  kwNull : ∀ {r}, E (.sym "null" :: r) (.lit .null) r
  paren : ∀ {r r' e}, E r e (.sym ")" :: r') → E (.sym "(" :: r) e r'
  listEmpty : ∀ {r}, E (.sym "[" :: .sym "," :: .sym "]" :: r) (.list []) r
  list : ∀ {r r' es}, L "]" r es r' → E (.sym "[" :: r) (.list es) r'
  mapEmpty : ∀ {r}, E (.sym "{" :: .sym "," :: .sym "}" :: r) (.map []) r
  map : ∀ {r r' es}, M r es r' → E (.sym "{" :: r) (.map es) r'
  msgEmpty : ∀ {dot ts ts' k names r}, Dotted dot ts ts' →
    messageHead k ts' = some (names, .sym "," :: .sym "}" :: r) →
    E ts (.struct (String.ofList ((if dot then ['.'] else []) ++ joinDots names)) [] []) r
  msg : ∀ {dot ts ts' k names r r' fs vs}, Dotted dot ts ts' → messageHead k ts' = some (names, r) →
    F r fs vs r' → E ts (.struct (String.ofList ((if dot then ['.'] else []) ++ joinDots names)) fs vs) r'
  call : ∀ {dot ts f r r' args e}, Dotted dot ts (.ident f :: .sym "(" :: r) → L ")" r args r' →
    callOrMacro (String.ofList ((if dot then ['.'] else []) ++ f)) none args = some e → E ts e r'
  ident : ∀ {dot ts n r}, Dotted dot ts (.ident n :: r) → E ts (.ident (String.ofList n)) r

def Returns {α : Type} (E : Toks → α → Toks → Prop) (p : Toks → Option (α × Toks)) : Prop :=
  ∀ ⦃ts e r⦄, p ts = some (e, r) → E ts e r
def Threads {α β : Type} (A : Toks → β → α → Toks → Prop) (p : Toks → β → Option (α × Toks)) :
    Prop :=
  ∀ ⦃ts l e r⦄, p ts l = some (e, r) → A ts l e r

structure Holds (E : Toks → Expr → Toks → Prop) (A : Toks → Expr → Expr → Toks → Prop)
    (LA : Toks → List Expr → List Expr → Toks → Prop) (L : String → Toks → List Expr → Toks → Prop)
    (M : Toks → List (Expr × Expr) → Toks → Prop) (F : Toks → List Str → List Expr → Toks → Prop)
    (fuel : Nat) : Prop where
  expr : Returns E (parseExpr fuel)
  or : Returns E (parseOr fuel)
  orRest : Threads LA (parseOrRest fuel)
  and : Returns E (parseAnd fuel)
  andRest : Threads LA (parseAndRest fuel)
  rel : Returns E (parseRel fuel)
  relRest : Threads A (parseRelRest fuel)
  add : Returns E (parseAdd fuel)
  addRest : Threads A (parseAddRest fuel)
  mul : Returns E (parseMul fuel)
  mulRest : Threads A (parseMulRest fuel)
  unary : Returns E (parseUnary fuel)
  member : Returns E (parseMember fuel)
  suffix : Threads A (parseSuffix fuel)
  args : Returns (L ")") (parseArgs fuel)
  elems : Returns (L "]") (parseListElems fuel)
  entries : Returns M (parseMapEntries fuel)
  fields : ∀ ⦃ts fs vs r⦄, parseFields fuel ts = some (fs, vs, r) → F ts fs vs r
  primary : Returns E (parsePrimary fuel)

theorem lit_case {o : Option Expr} {r rest : Toks} {e : Expr}
    (h : Option.map (fun x => (x, r)) o = some (e, rest)) : o = some e ∧ r = rest := by
  simp only [Option.map_eq_some_iff] at h
  obtain ⟨a, ha, hp⟩ := h
  cases hp; exact ⟨ha, rfl⟩

section Walk
variable {E : Toks → Expr → Toks → Prop} {A : Toks → Expr → Expr → Toks → Prop}
  {LA : Toks → List Expr → List Expr → Toks → Prop} {L : String → Toks → List Expr → Toks → Prop}
  {M : Toks → List (Expr × Expr) → Toks → Prop} {F : Toks → List Str → List Expr → Toks → Prop}
  (C : Closed E A LA L M F) (fuel : Nat)
include C

theorem expr_step (hOr : Returns E (parseOr fuel))
    (hE : Returns E (parseExpr fuel)) :
    Returns E (parseExpr (fuel + 1)) := by
  intro ts e rest h
  simp only [parseExpr] at h
  split at h
  · cases h
  · rename_i c r h1
    split at h
    · rename_i a r2 h2
      split at h
      · rename_i b r3 h3
        cases h
        exact C.cond (hOr h1) (hOr h2) (hE h3)
      · cases h
    · cases h
  · rename_i h1
    cases h
    exact hOr h1

section Levels
variable {ops : String → Option String} {tok op : String} {sub : PFun}
  (hA : Returns E (sub fuel))
include hA

theorem levelLogic_step (hR : Threads LA (loopLogic tok sub fuel)) :
    Returns E (levelLogic tok op sub (fuel + 1)) := by
  intro ts e rest h
  simp only [levelLogic] at h
  split at h
  · cases h
  · rename_i t r h1
    split at h
    · rename_i terms r' h2
      cases h
      exact C.logic op (hA h1) (hR h2)
    · cases h

theorem loopLogic_step (htok : tok = "||" ∨ tok = "&&")
    (hR : Threads LA (loopLogic tok sub fuel)) :
    Threads LA (loopLogic tok sub (fuel + 1)) := by
  intro ts acc e rest h
  simp only [loopLogic] at h
  split at h
  · split at h
    · rename_i hs
      subst hs
      split at h
      · rename_i t r' h1
        exact C.logicMore htok (hA h1) (hR h)
      · cases h
    · cases h; exact C.logicStop
  · cases h; exact C.logicStop

theorem levelL_step (hR : Threads A (loopL ops sub fuel)) :
    Returns E (levelL ops sub (fuel + 1)) := by
  intro ts e rest h
  simp only [levelL] at h
  split at h
  · cases h
  · rename_i t r h1
    exact C.thread (hA h1) (hR h)

theorem loopL_step (hops : ∀ {s op}, ops s = some op → IsBinOp s op)
    (hR : Threads A (loopL ops sub fuel)) :
    Threads A (loopL ops sub (fuel + 1)) := by
  intro ts acc e rest h
  simp only [loopL] at h
  split at h
  · split at h
    · rename_i op hop
      split at h
      · rename_i t r' h1
        exact C.binMore (hops hop) (hA h1) (hR h)
      · cases h
    · cases h; exact C.stop
  · cases h; exact C.stop
end Levels

theorem unary_step (hM : Returns E (parseMember fuel)) :
    Returns E (parseUnary (fuel + 1)) := by
  intro ts e rest h
  simp only [parseUnary] at h
  split at h
  · rename_i hnb
    split at h
    · rename_i m r h1
      cases h
      exact C.prefixOp (.inl ⟨rfl, rfl⟩) hnb (hM h1)
    · cases h
  · split at h
    · rename_i hnm
      -- the test for a signed literal is generalised away: either way `parseMember` decides
      have key : ∀ b : Bool, (if b = true then parseMember fuel ts
          else
            match parseMember fuel (List.drop (runLen "-" ts) ts) with
            | some (m, r) => some (if (runLen "-" ts % 2 == 0) = true then m else Expr.call "-_" [m], r)
            | none => none) = some (e, rest) → E ts e rest := by
        intro b hb
        split at hb
        · exact hM hb
        · split at hb
          · rename_i m r h1
            cases hb
            exact C.prefixOp (.inr ⟨rfl, rfl⟩) hnm (hM h1)
          · cases hb
      exact key _ h
    · exact hM h

theorem member_step (hP : Returns E (parsePrimary fuel))
    (hS : Threads A (parseSuffix fuel)) :
    Returns E (parseMember (fuel + 1)) := by
  intro ts e rest h
  simp only [parseMember] at h
  split at h
  · cases h
  · rename_i t r h1
    exact C.thread (hP h1) (hS h)

theorem suffix_step (hA : Returns (L ")") (parseArgs fuel))
    (hE : Returns E (parseExpr fuel))
    (hS : Threads A (parseSuffix fuel)) :
    Threads A (parseSuffix (fuel + 1)) := by
  intro ts acc e rest h
  simp only [parseSuffix] at h
  split at h
  · split at h
    · rename_i args r' h1
      split at h
      · rename_i c hc
        exact C.sufCall (hA h1) hc (hS h)
      · cases h
    · cases h
  · exact C.sufSel (.inl rfl) (hS h)
  · exact C.sufSel (.inr rfl) (hS h)
  · split at h
    · rename_i i r' h1
      exact C.sufIdx (hE h1) (hS h)
    · cases h
  · cases h; exact C.stop

theorem args_step (hE : Returns E (parseExpr fuel))
    (hA : Returns (L ")") (parseArgs fuel)) :
    Returns (L ")") (parseArgs (fuel + 1)) := by
  intro ts e rest h
  simp only [parseArgs] at h
  split at h
  · cases h; exact C.seqNil (.inl rfl)
  · split at h
    · rename_i a r h1
      split at h
      · cases h
      · split at h
        · rename_i rs r' h2
          cases h
          exact C.seqMore (.inl rfl) (hE h1) (hA h2)
        · cases h
    · rename_i a r h1
      cases h
      exact C.seqLast (.inl rfl) (hE h1)
    · cases h

theorem elems_step (hE : Returns E (parseExpr fuel))
    (hA : Returns (L "]") (parseListElems fuel)) :
    Returns (L "]") (parseListElems (fuel + 1)) := by
  intro ts e rest h
  simp only [parseListElems] at h
  split at h
  · cases h; exact C.seqNil (.inr rfl)
  · split at h
    · rename_i a r h1
      split at h
      · rename_i rs r' h2
        cases h
        exact C.seqMore (.inr rfl) (hE h1) (hA h2)
      · cases h
    · rename_i a r h1
      cases h
      exact C.seqLast (.inr rfl) (hE h1)
    · cases h

theorem entries_step (hE : Returns E (parseExpr fuel))
    (hA : Returns M (parseMapEntries fuel)) :
    Returns M (parseMapEntries (fuel + 1)) := by
  intro ts e rest h
  simp only [parseMapEntries] at h
  split at h
  · cases h; exact C.entNil
  · split at h
    · rename_i k r h1
      split at h
      · rename_i v r2 h2
        split at h
        · rename_i rs r3 h3
          cases h
          exact C.entMore (hE h1) (hE h2) (hA h3)
        · cases h
      · rename_i v r2 h2
        cases h
        exact C.entLast (hE h1) (hE h2)
      · cases h
    · cases h

theorem fields_step (hE : Returns E (parseExpr fuel))
    (hA : ∀ ⦃ts fs vs r⦄, parseFields fuel ts = some (fs, vs, r) → F ts fs vs r) :
    ∀ ⦃ts fs vs r⦄, parseFields (fuel + 1) ts = some (fs, vs, r) → F ts fs vs r := by
  intro ts fs vs rest h
  simp only [parseFields] at h
  split at h
  · cases h; exact C.fldNil
  · split at h
    · cases h
    · rename_i f r hnr
      have hts : ∃ tk, (tk = Tok.ident f ∨ tk = Tok.escIdent f) ∧ ts = tk :: .sym ":" :: r := by
        split at hnr
        · cases hnr; exact ⟨_, .inl rfl, rfl⟩
        · cases hnr; exact ⟨_, .inr rfl, rfl⟩
        · cases hnr
      obtain ⟨tk, htk, rfl⟩ := hts
      split at h
      · rename_i v r2 h2
        split at h
        · rename_i fs' vs' r3 h3
          cases h
          exact C.fldMore htk (hE h2) (hA h3)
        · cases h
      · rename_i v r2 h2
        cases h
        exact C.fldLast htk (hE h2)
      · cases h

/-- The last arm of `parsePrimary`.  The model binds `(dot, ts')` by a `match` and goes on inside the
`let`; `split` reaches the inner matches only when that pair is a variable, hence the arbitrary pair
`p` with the text of the arm as hypothesis. -/
theorem primary_ident (hA : Returns (L ")") (parseArgs fuel))
    (hF : ∀ ⦃ts fs vs r⦄, parseFields fuel ts = some (fs, vs, r) → F ts fs vs r)
    (p : Bool × Toks) (e : Expr) (rest : Toks)
    (h : (match messageHead (p.snd.length + 1) p.snd with
      | some (names, r) =>
        (match r with
         | .sym "," :: .sym "}" :: r' =>
            some (Expr.struct (String.ofList ((if p.fst then ['.'] else []) ++ joinDots names)) [] [], r')
         | _ => (match parseFields fuel r with
            | some (fs, vs, r') =>
              some (Expr.struct (String.ofList ((if p.fst then ['.'] else []) ++ joinDots names)) fs vs, r')
            | none => none))
      | none =>
        match p.snd with
        | .ident f :: .sym "(" :: r =>
          (match parseArgs fuel r with
           | some (args, r') =>
             (callOrMacro (String.ofList ((if p.fst then ['.'] else []) ++ f)) none args).map (·, r')
           | none => none)
        | .ident n :: r => some (Expr.ident (String.ofList n), r)
        | _ => none) = some (e, rest)) :
    ∀ ts, Dotted p.fst ts p.snd → E ts e rest := by
  obtain ⟨dot, ts'⟩ := p
  intro ts hd
  simp only at h hd
  split at h
  · rename_i names r h1
    split at h
    · cases h
      exact C.msgEmpty hd h1
    · split at h
      · rename_i fs vs r' h2
        cases h
        exact C.msg hd h1 (hF h2)
      · cases h
  · split at h
    · split at h
      · rename_i args r' h2
        obtain ⟨hc, rfl⟩ := lit_case h
        exact C.call hd (hA h2) hc
      · cases h
    · cases h
      exact C.ident hd
    · cases h

theorem primary_step (hE : Returns E (parseExpr fuel))
    (hA : Returns (L ")") (parseArgs fuel))
    (hL : Returns (L "]") (parseListElems fuel))
    (hM : Returns M (parseMapEntries fuel))
    (hF : ∀ ⦃ts fs vs r⦄, parseFields fuel ts = some (fs, vs, r) → F ts fs vs r) :
    Returns E (parsePrimary (fuel + 1)) := by
  intro ts e rest h
  simp only [parsePrimary] at h
  split at h
  · obtain ⟨h1, rfl⟩ := lit_case h; exact C.negInt h1
  · obtain ⟨h1, rfl⟩ := lit_case h; exact C.negFloat h1
  · obtain ⟨h1, rfl⟩ := lit_case h; exact C.int h1
  · obtain ⟨h1, rfl⟩ := lit_case h; exact C.float h1
  · obtain ⟨h1, rfl⟩ := lit_case h; exact C.uint h1
  · obtain ⟨h1, rfl⟩ := lit_case h; exact C.str h1
  · obtain ⟨h1, rfl⟩ := lit_case h; exact C.bytes h1
  · cases h; exact C.kwTrue
  · cases h; exact C.kwFalse
  · cases h; exact C.kwNull
  · split at h
    · rename_i e' r' h1
      cases h
      exact C.paren (hE h1)
    · cases h
  · split at h
    · cases h
      exact C.listEmpty
    · split at h
      · rename_i es r' h1
        cases h
        exact C.list (hL h1)
      · cases h
  · split at h
    · cases h
      exact C.mapEmpty
    · split at h
      · rename_i es r' h1
        cases h
        exact C.map (hM h1)
      · cases h
  · refine primary_ident C fuel hA hF _ e rest h ts ?_
    split
    · exact .inl ⟨rfl, rfl⟩
    · exact .inr ⟨rfl, rfl⟩

omit C in
theorem holds_zero : Holds E A LA L M F 0 := by
  constructor
  all_goals exact nofun

theorem holds_succ (ih : Holds E A LA L M F fuel) : Holds E A LA L M F (fuel + 1) where
  expr := expr_step C fuel ih.or ih.expr
  or := parseOr_eq ▸ levelLogic_step C fuel ih.and (parseOrRest_eq ▸ ih.orRest)
  orRest := parseOrRest_eq ▸ loopLogic_step C fuel ih.and (.inl rfl) (parseOrRest_eq ▸ ih.orRest)
  and := parseAnd_eq ▸ levelLogic_step C fuel ih.rel (parseAndRest_eq ▸ ih.andRest)
  andRest := parseAndRest_eq ▸ loopLogic_step C fuel ih.rel (.inr rfl) (parseAndRest_eq ▸ ih.andRest)
  rel := parseRel_eq ▸ levelL_step C fuel ih.add (parseRelRest_eq ▸ ih.relRest)
  relRest := parseRelRest_eq ▸ loopL_step C fuel ih.add .inl (parseRelRest_eq ▸ ih.relRest)
  add := parseAdd_eq ▸ levelL_step C fuel ih.mul (parseAddRest_eq ▸ ih.addRest)
  addRest := parseAddRest_eq ▸ loopL_step C fuel ih.mul (fun h => .inr (.inl h)) (parseAddRest_eq ▸ ih.addRest)
  mul := parseMul_eq ▸ levelL_step C fuel ih.unary (parseMulRest_eq ▸ ih.mulRest)
  mulRest := parseMulRest_eq ▸ loopL_step C fuel ih.unary (fun h => .inr (.inr h)) (parseMulRest_eq ▸ ih.mulRest)
  unary := unary_step C fuel ih.member
  member := member_step C fuel ih.primary ih.suffix
  suffix := suffix_step C fuel ih.args ih.expr ih.suffix
  args := args_step C fuel ih.expr ih.args
  elems := elems_step C fuel ih.expr ih.elems
  entries := entries_step C fuel ih.expr ih.entries
  fields := fields_step C fuel ih.expr ih.fields
  primary := primary_step C fuel ih.expr ih.args ih.elems ih.entries ih.fields
end Walk

theorem Closed.holds {E A LA L M F} (C : Closed E A LA L M F) : ∀ fuel, Holds E A LA L M F fuel
  | 0 => holds_zero
  | fuel + 1 => holds_succ C fuel (Closed.holds C fuel)

end Cel.Lemmas.ParserClosed
