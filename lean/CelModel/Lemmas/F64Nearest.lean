import CelModel.Lemmas.F64Bits
import CelModel.Lemmas.F64Round
/-!
# The owner of a fraction is the nearest double, ties to even

`InInterval m e num den` says that the double `m · 2^e` owns `num / den`; `roundRatPos_of_interval`
makes the owner the result of rounding.  Distances are taken in units of `2^-1074 / den`, where
every double is a natural number.  `interval_nearest` is the result; it has two halves: no double
lies between neighbours (`grid_cases`), and from there it is linear arithmetic (`closest`).
-/
namespace Cel.F64

/-- the interval in additive form, times four: `m·W` the double, `W` the gap `2^e` above, `g` the
width of the lower half (`2 W`, or `W` at a binade boundary) -/
theorem InInterval.bounds {m : Nat} {e : Int} {num den : Nat} (hm : 0 < m)
    (hin : InInterval m e num den) :
    ∃ g, (m = 2 ^ 52 → -1074 < e → g = unit4 e * den) ∧ g ≤ 2 * (unit4 e * den) ∧
      4 * (m * (unit4 e * den)) ≤ 4 * (num * 2 ^ 1074) + g ∧
      4 * (num * 2 ^ 1074) ≤ 4 * (m * (unit4 e * den)) + 2 * (unit4 e * den) ∧
      (m % 2 = 1 → 4 * (m * (unit4 e * den)) < 4 * (num * 2 ^ 1074) + g ∧
        4 * (num * 2 ^ 1074) < 4 * (m * (unit4 e * den)) + 2 * (unit4 e * den)) := by
  unfold InInterval highQ at hin
  rw [two_pow_1076] at hin
  generalize 2 ^ 1074 = P at *
  rw [Nat.mul_left_comm num 4] at hin
  simp only [Nat.mul_assoc _ (unit4 e) den] at hin
  generalize unit4 e * den = W at *
  have key : ∀ c k, c + k = 4 * m → c * W + k * W = 4 * (m * W) := by
    intro c k h
    rw [← Nat.add_mul, h, Nat.mul_assoc]
  have e3 : (4 * m + 2) * W = 4 * (m * W) + 2 * W := by rw [Nat.add_mul, Nat.mul_assoc]
  rw [e3] at hin
  generalize m * W = Y at *
  generalize num * P = X at *
  by_cases hb : isBoundary m e = true
  · have e1 := key (4 * m - 1) 1 (by omega)
    rw [lowQ_boundary hb] at hin
    generalize (4 * m - 1) * W = L at *
    exact ⟨W, fun _ _ => rfl, by split at hin <;> omega⟩
  · have e2 := key (4 * m - 2) 2 (by omega)
    rw [lowQ_not_boundary hb] at hin
    generalize (4 * m - 2) * W = L at *
    exact ⟨2 * W, fun h1 h2 => absurd ((isBoundary_iff m e).2 ⟨h1, h2⟩) hb,
      by split at hin <;> omega⟩

theorem grid_coarse (m t A : Nat) : t * A = m * A ∨ m * A + A ≤ t * A ∨ t * A + A ≤ m * A := by
  rcases Nat.lt_trichotomy t m with h | h | h
  · have := Nat.mul_le_mul_right A (Nat.succ_le_of_lt h)
    rw [Nat.succ_mul] at this
    exact Or.inr (Or.inr this)
  · exact Or.inl (by rw [h])
  · have := Nat.mul_le_mul_right A (Nat.succ_le_of_lt h)
    rw [Nat.succ_mul] at this
    exact Or.inr (Or.inl this)

/-- doubles on a finer grid `A'` (`A = A' * D`) lie at least one gap below a normal `m · A`, half a
gap when `m = 2^52` starts a binade -/
theorem grid_fine (m m' A' D : Nat) (hm' : m' < 2 ^ 53) (hm : 2 ^ 52 ≤ m) (hD : 2 ≤ D) :
    (2 ^ 52 < m → m' * A' + A' * D ≤ m * (A' * D)) ∧
    (2 * (m' * A') + A' * D ≤ 2 * (m * (A' * D))) := by
  have h1 : m' * A' ≤ (2 ^ 53 - 1) * A' := Nat.mul_le_mul_right A' (by omega)
  have h2 : A' * 2 ≤ A' * D := Nat.mul_le_mul_left A' hD
  have h3 : 2 ^ 52 * (A' * D) ≤ m * (A' * D) := Nat.mul_le_mul_right _ hm
  refine ⟨fun h => ?_, by omega⟩
  have h4 : (2 ^ 52 + 1) * (A' * D) ≤ m * (A' * D) := Nat.mul_le_mul_right _ h
  omega

/-- no double lies between neighbours: `m' · 2^u'` is on a normalised `m · 2^u`, a gap `2^u` or more
above, a gap or more below, or half a gap or more below when `m = 2^52` starts a binade -/
theorem grid_cases (m m' u u' c : Nat) (hm' : m' < 2 ^ 53) (hn : u = 0 ∨ 2 ^ 52 ≤ m) :
    m' * (2 ^ u' * c) = m * (2 ^ u * c) ∨
      m * (2 ^ u * c) + 2 ^ u * c ≤ m' * (2 ^ u' * c) ∨
      m' * (2 ^ u' * c) + 2 ^ u * c ≤ m * (2 ^ u * c) ∨
      (m = 2 ^ 52 ∧ 0 < u ∧ 2 * (m' * (2 ^ u' * c)) + 2 ^ u * c ≤ 2 * (m * (2 ^ u * c))) := by
  by_cases hle : u ≤ u'
  · obtain ⟨d, rfl⟩ : ∃ d, u' = d + u := ⟨u' - u, by omega⟩
    have hY' : m' * (2 ^ (d + u) * c) = m' * 2 ^ d * (2 ^ u * c) := by
      rw [Nat.pow_add]
      simp only [Nat.mul_assoc]
    rw [hY']
    rcases grid_coarse m (m' * 2 ^ d) (2 ^ u * c) with h | h | h
    · exact Or.inl h
    · exact Or.inr (Or.inl h)
    · exact Or.inr (Or.inr (Or.inl h))
  · obtain ⟨d, rfl⟩ : ∃ d, u = u' + (d + 1) := ⟨u - u' - 1, by omega⟩
    have hD : 2 ≤ 2 ^ (d + 1) := Nat.one_lt_two_pow (Nat.succ_ne_zero d)
    have hW : 2 ^ (u' + (d + 1)) * c = 2 ^ u' * c * 2 ^ (d + 1) := by
      rw [Nat.pow_add, Nat.mul_right_comm]
    obtain ⟨hg1, hg2⟩ := grid_fine m m' (2 ^ u' * c) (2 ^ (d + 1)) hm' (by omega) hD
    rw [hW]
    by_cases hb : m = 2 ^ 52
    · exact Or.inr (Or.inr (Or.inr ⟨hb, by omega, hg2⟩))
    · exact Or.inr (Or.inr (Or.inl (hg1 (by omega))))

/-- the linear core: with `X` in the interval of `Y` and `Y'` on `Y` or a gap away, a tie puts `X` on
an end point, which an odd `k` excludes -/
theorem closest {Y Y' X W g k : Nat} (hlo : 4 * Y ≤ 4 * X + g) (hhi : 4 * X ≤ 4 * Y + 2 * W)
    (hodd : k % 2 = 1 → 4 * Y < 4 * X + g ∧ 4 * X < 4 * Y + 2 * W)
    (hpos : Y' = Y ∨ Y + W ≤ Y' ∨ 2 * Y' + g ≤ 2 * Y) :
    ((Y : Int) - X).natAbs ≤ ((Y' : Int) - X).natAbs ∧
      (((Y : Int) - X).natAbs = ((Y' : Int) - X).natAbs → Y' ≠ Y → k % 2 = 0) := by
  omega

/-- nearest, ties to even; `m' · unit4 e'` is `m' · 2^e'` for `e' ≥ -1074` and the double
`m' · 2^-1074` below that -/
theorem interval_nearest {m : Nat} {e : Int} (hv : ValidFin m e) {num den : Nat}
    (hin : InInterval m e num den) (m' : Nat) (e' : Int) (hm' : m' < 2 ^ 53) :
    (((m * unit4 e * den : Nat) : Int) - ((num * 2 ^ 1074 : Nat) : Int)).natAbs ≤
        (((m' * unit4 e' * den : Nat) : Int) - ((num * 2 ^ 1074 : Nat) : Int)).natAbs ∧
      ((((m * unit4 e * den : Nat) : Int) - ((num * 2 ^ 1074 : Nat) : Int)).natAbs =
          (((m' * unit4 e' * den : Nat) : Int) - ((num * 2 ^ 1074 : Nat) : Int)).natAbs →
        m' * unit4 e' * den ≠ m * unit4 e * den → m % 2 = 0) := by
  obtain ⟨hm0, _, he1, _, hsub⟩ := hv
  obtain ⟨g, hg, b0, b1, b2, b3⟩ := InInterval.bounds hm0 hin
  have hpos := grid_cases m m' (e + 1074).toNat (e' + 1074).toNat den hm' (by omega)
  rw [Nat.mul_assoc m, Nat.mul_assoc m']
  unfold unit4 at *
  generalize m * (2 ^ (e + 1074).toNat * den) = Y at *
  generalize m' * (2 ^ (e' + 1074).toNat * den) = Y' at *
  generalize 2 ^ (e + 1074).toNat * den = W at *
  generalize num * 2 ^ 1074 = X at *
  have hpos' : Y' = Y ∨ Y + W ≤ Y' ∨ 2 * Y' + g ≤ 2 * Y := by
    rcases hpos with h | h | h | ⟨h1, h2, h⟩
    · exact Or.inl h
    · exact Or.inr (Or.inl h)
    · exact Or.inr (Or.inr (by omega))
    · exact Or.inr (Or.inr (by rw [hg h1 (by omega)]; exact h))
  exact closest b1 b2 b3 hpos'

end Cel.F64
