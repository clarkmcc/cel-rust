import CelModel.Lemmas.Closed
/-!
# The step counter is write-only

`SI m` (steps-independent): shifting the step counter of the start state by `k` shifts that of the
end state by `k` and changes nothing else.  It is a closed family, so it holds of `eval` (`eval_SI`).
-/
namespace Cel

def shiftSt (k : Nat) (s : St β) : St β := { s with steps := s.steps + k }

def SI (m : M β α) : Prop := ∀ s k, m (shiftSt k s) = ((m s).1, shiftSt k (m s).2)

namespace SI

theorem tick : SI (M.tick : M β Unit) := by
  intro s k
  show ((Outcome.ok (), ({ log := s.log, steps := s.steps + k + 1 } : St β))) =
    (Outcome.ok (), ({ log := s.log, steps := s.steps + 1 + k } : St β))
  rw [Nat.add_right_comm]

theorem bind_ret {m : M β α} {f : α → M β γ} (hm : SI m) (hf : ∀ a, Ret m a → SI (f a)) :
    SI (m >>= f) := by
  intro s k
  rw [M.bind_apply, M.bind_apply, hm s k]
  rcases h : m s with ⟨o, s'⟩
  cases o with
  | ok a => exact hf a ⟨s, s', h⟩ s' k
  | err e => rfl
  | panic p => rfl

theorem ite {c : Prop} [Decidable c] {a b : M β α} (ha : SI a) (hb : SI b) :
    SI (if c then a else b) := by
  split
  · exact ha
  · exact hb

end SI

theorem SI.closed : Closed (fun _ {_} m => SI m) (fun _ => True) :=
  .const (fun _ _ _ => rfl) (fun _ _ _ => rfl) SI.tick (fun _ _ _ => rfl) SI.bind_ret

theorem eval_SI (e : Expr) (ctx : Ctx) : SI (eval ctx e) :=
  SI.closed.eval (fun _ _ => trivial) (.all (fun _ => trivial) fun _ _ _ => rfl) e ctx trivial

end Cel
