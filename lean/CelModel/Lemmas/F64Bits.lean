import CelModel.Lemmas.F64Interval
/-!
# Bit patterns: `decodeNat` and `encodePos` through the three fields of a pattern

`decodeNat_fields` computes the bit positions once; every other fact about decoding is a case
split on the fields `sign · 2^63 + exponent · 2^52 + fraction`.  Users call `decode_encodePos`
(encode, then decode), `decodeNat_validFin` (decode, then encode) and `decodeNat_sign` (the sign bit
set apart).  At the head: the closed constants of the floating-point files, each checked once by the
kernel, and two bounds under scaling by a power of two.
-/
namespace Cel.F64

theorem two_pow_1076 : (2 : Nat) ^ 1076 = 4 * 2 ^ 1074 := by decide +kernel

/-- 309 and 324 are the decimal magnitudes beyond which `F64.parse` may clamp to infinity and to
zero (`Props/C13d`) and which bound the loops of `shortestDigits` (`F64DigitsAsm`) -/
theorem two_pow_1024_le : (2 : Nat) ^ 1024 ≤ 10 ^ 309 := by decide +kernel
theorem two_pow_1076_le : (2 : Nat) ^ 1076 ≤ 10 ^ 324 := by decide +kernel
theorem two_pow_55_2045 : (2 : Nat) ^ 55 * 2 ^ 2045 = 2 ^ 1024 * 2 ^ 1076 := by decide +kernel

theorem div_two_pow_bounds {n a k : Nat} (h1 : 2 ^ (a + k) ≤ n) (h2 : n < 2 ^ (a + k + 1)) :
    2 ^ a ≤ n / 2 ^ k ∧ n / 2 ^ k < 2 ^ (a + 1) := by
  have hpos : 0 < 2 ^ k := Nat.two_pow_pos k
  rw [Nat.pow_add] at h1
  rw [Nat.add_right_comm, Nat.pow_add] at h2
  exact ⟨(Nat.le_div_iff_mul_le hpos).2 h1, (Nat.div_lt_iff_lt_mul hpos).2 h2⟩

theorem mul_two_pow_bounds {n a : Nat} (k : Nat) (h1 : 2 ^ a ≤ n) (h2 : n < 2 ^ (a + 1)) :
    2 ^ (a + k) ≤ n * 2 ^ k ∧ n * 2 ^ k < 2 ^ (a + k + 1) := by
  have hpos : 0 < 2 ^ k := Nat.two_pow_pos k
  rw [Nat.pow_add, Nat.add_right_comm, Nat.pow_add]
  exact ⟨Nat.mul_le_mul_right _ h1, Nat.mul_lt_mul_of_pos_right h2 hpos⟩

theorem decodeNat_fields (s ex fr : Nat) (hex : ex < 2 ^ 11) (hfr : fr < 2 ^ 52) :
    decodeNat (s * 2 ^ 63 + ex * 2 ^ 52 + fr) =
      if ex = 2047 then (if fr = 0 then .inf (s % 2 == 1) else .nan)
      else if ex = 0 then .fin (s % 2 == 1) fr (-1074)
      else .fin (s % 2 == 1) (fr + 2 ^ 52) ((ex : Int) - 1075) := by
  have e1 : (s * 2 ^ 63 + ex * 2 ^ 52 + fr) / 2 ^ 52 % 2 ^ 11 = ex := by omega
  have e2 : (s * 2 ^ 63 + ex * 2 ^ 52 + fr) % 2 ^ 52 = fr := by omega
  have e3 : (s * 2 ^ 63 + ex * 2 ^ 52 + fr) / 2 ^ 63 = s := by omega
  unfold decodeNat
  simp only [e1, e2, e3, beq_iff_eq]

theorem bits_fields (b : Nat) :
    ∃ s ex fr, ex < 2 ^ 11 ∧ fr < 2 ^ 52 ∧ b = s * 2 ^ 63 + ex * 2 ^ 52 + fr ∧ (b < 2 ^ 63 → s = 0) :=
  ⟨b / 2 ^ 63, b / 2 ^ 52 % 2 ^ 11, b % 2 ^ 52, by omega, by omega, by omega, by omega⟩

theorem decodeNat_fin_fields (s ex fr : Nat) (hex : ex < 2047) (hfr : fr < 2 ^ 52) :
    decodeNat (s * 2 ^ 63 + ex * 2 ^ 52 + fr) =
      .fin (s % 2 == 1) (if ex = 0 then fr else fr + 2 ^ 52)
        (if ex = 0 then -1074 else (ex : Int) - 1075) := by
  rw [decodeNat_fields s ex fr (by omega) hfr, if_neg (by omega)]
  split <;> rfl

/-- the mirror image of `encodePos_fields` -/
theorem decodeNat_fin_inv {b : Nat} {neg : Bool} {m : Nat} {e : Int}
    (h : decodeNat b = .fin neg m e) :
    ∃ s ex fr, ex < 2047 ∧ fr < 2 ^ 52 ∧ b = s * 2 ^ 63 + ex * 2 ^ 52 + fr ∧ (b < 2 ^ 63 → s = 0) ∧
      neg = (s % 2 == 1) ∧ m = (if ex = 0 then fr else fr + 2 ^ 52) ∧
      e = (if ex = 0 then -1074 else (ex : Int) - 1075) := by
  obtain ⟨s, ex, fr, hex, hfr, rfl, hs⟩ := bits_fields b
  have hne : ex ≠ 2047 := by
    intro h1
    rw [decodeNat_fields s ex fr hex hfr, if_pos h1] at h
    split at h <;> cases h
  rw [decodeNat_fin_fields s ex fr (by omega) hfr] at h
  obtain ⟨h1, h2, h3⟩ := D.fin.inj h
  exact ⟨s, ex, fr, by omega, hfr, rfl, hs, h1.symm, h2.symm, h3.symm⟩

theorem decodeNat_fin_bounds {bits : Nat} {neg : Bool} {m : Nat} {e : Int}
    (h : decodeNat bits = .fin neg m e) : m < 2 ^ 53 ∧ -1074 ≤ e := by
  obtain ⟨s, ex, fr, hex, hfr, _, _, _, rfl, rfl⟩ := decodeNat_fin_inv h
  constructor <;> split <;> omega

theorem encodePos_fields {m : Nat} {e : Int} (hv : ValidFin m e) :
    ∃ ex fr, ex < 2047 ∧ fr < 2 ^ 52 ∧ encodePos m e = 0 * 2 ^ 63 + ex * 2 ^ 52 + fr ∧
      ((ex = 0 ∧ fr = m ∧ e = -1074) ∨ (0 < ex ∧ fr + 2 ^ 52 = m ∧ (ex : Int) - 1075 = e)) := by
  obtain ⟨hm0, hm53, he1, he2, hsub⟩ := hv
  unfold encodePos
  by_cases hm : m < 2 ^ 52
  · exact ⟨0, m, by decide, hm, by rw [if_pos hm]; omega, Or.inl ⟨rfl, rfl, by omega⟩⟩
  · exact ⟨(e + 1075).toNat, m - 2 ^ 52, by omega, by omega, by rw [if_neg hm]; omega,
      Or.inr ⟨by omega, by omega, by omega⟩⟩

theorem decode_encodePos (m : Nat) (e : Int) (hv : ValidFin m e) :
    decodeNat (encodePos m e) = .fin false m e ∧ encodePos m e < 2 ^ 63 := by
  obtain ⟨ex, fr, hex, hfr, henc, hcase⟩ := encodePos_fields hv
  rw [henc, decodeNat_fin_fields 0 ex fr hex hfr]
  rcases hcase with ⟨h1, h2, h3⟩ | ⟨h1, h2, h3⟩
  · rw [if_pos h1, if_pos h1, h2, h3]
    exact ⟨rfl, by omega⟩
  · rw [if_neg (by omega), if_neg (by omega), h2, h3]
    exact ⟨rfl, by omega⟩

theorem decodeNat_validFin {bits : Nat} (hb : bits < 2 ^ 63) {m : Nat} {e : Int}
    (hd : decodeNat bits = .fin false m e) (hm : 0 < m) :
    ValidFin m e ∧ encodePos m e = bits := by
  obtain ⟨s, ex, fr, hex, hfr, rfl, hs, _, rfl, rfl⟩ := decodeNat_fin_inv hd
  obtain rfl := hs hb
  unfold encodePos
  by_cases h0 : ex = 0
  · rw [if_pos h0] at hm ⊢
    rw [if_pos h0, if_pos hfr]
    exact ⟨⟨hm, by omega, by omega, by omega, Or.inl rfl⟩, by omega⟩
  · rw [if_neg h0, if_neg h0, if_neg (by omega)]
    exact ⟨⟨by omega, by omega, by omega, by omega, Or.inr (by omega)⟩, by omega⟩

theorem decode_ofNat_sign {bits : Nat} (hb : bits < 2 ^ 63) {neg : Bool} {m : Nat} {e : Int}
    (hd : decodeNat bits = .fin false m e) :
    decode (UInt64.ofNat (bits + (if neg then 2 ^ 63 else 0))) = .fin neg m e := by
  unfold decode
  have hlt : bits + (if neg = true then 2 ^ 63 else 0) < 2 ^ 64 := by split <;> omega
  rw [UInt64.toNat_ofNat', Nat.mod_eq_of_lt hlt]
  cases neg
  · exact hd
  · obtain ⟨s, ex, fr, hex, hfr, rfl, hs, _, rfl, rfl⟩ := decodeNat_fin_inv hd
    obtain rfl := hs hb
    have e1 : 0 * 2 ^ 63 + ex * 2 ^ 52 + fr + 2 ^ 63 = 1 * 2 ^ 63 + ex * 2 ^ 52 + fr := by omega
    rw [if_pos rfl, e1, decodeNat_fin_fields 1 ex fr hex hfr]
    rfl

theorem decodeNat_sign {n : Nat} (hn : n < 2 ^ 64) {neg : Bool} {m : Nat} {e : Int}
    (hd : decodeNat n = .fin neg m e) :
    decodeNat (n % 2 ^ 63) = .fin false m e ∧ n = n % 2 ^ 63 + (if neg then 2 ^ 63 else 0) := by
  obtain ⟨s, ex, fr, hex, hfr, rfl, _, rfl, rfl, rfl⟩ := decodeNat_fin_inv hd
  have hmod : (s * 2 ^ 63 + ex * 2 ^ 52 + fr) % 2 ^ 63 = 0 * 2 ^ 63 + ex * 2 ^ 52 + fr := by omega
  rw [hmod, decodeNat_fin_fields 0 ex fr hex hfr]
  have hs : s = 0 ∨ s = 1 := by omega
  rcases hs with rfl | rfl
  · exact ⟨rfl, by rw [if_neg (by decide)]; omega⟩
  · exact ⟨rfl, by rw [if_pos (by decide)]; omega⟩

theorem decodeNat_zero {n : Nat} (hn : n < 2 ^ 63) {e : Int}
    (hd : decodeNat n = .fin false 0 e) : n = 0 := by
  obtain ⟨s, ex, fr, hex, hfr, rfl, hs, _, hm, _⟩ := decodeNat_fin_inv hd
  obtain rfl := hs hn
  split at hm <;> omega

theorem decodeNat_inf {n : Nat} (hn : n < 2 ^ 64) {neg : Bool} (hd : decodeNat n = .inf neg) :
    n = if neg then 0xfff0000000000000 else 0x7ff0000000000000 := by
  obtain ⟨s, ex, fr, hex, hfr, rfl, _⟩ := bits_fields n
  have hs : s = 0 ∨ s = 1 := by omega
  rw [decodeNat_fields s ex fr hex hfr] at hd
  split at hd
  · rename_i h1
    split at hd
    · rename_i h2
      obtain rfl := D.inf.inj hd
      rcases hs with rfl | rfl
      · rw [if_neg (by decide)]
        omega
      · rw [if_pos (by decide)]
        omega
    · cases hd
  · split at hd <;> cases hd

end Cel.F64
