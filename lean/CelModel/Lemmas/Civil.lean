import CelModel.Time
/-!
# The calendar round trips

An era is 400 Gregorian years = 146097 days from a 1st of March; 719468 days lie between
0000-03-01 and 1970-01-01, a Thursday (hence `(days + 4) % 7`).  `civilOfDoe` / `doeOfCivil` split a
day of the era into a March-based year and a day of that year (Hinnant's `yoeOf`; 1460, 36524,
146096 are the last days of a 4-, 100-, 400-year cycle) and that into month and day
(`(153 * mp + 2) / 5` days lie before month `mp`).  The month step is linear arithmetic.  `yoeOf` is
monotone, so it is right everywhere once it is right on the first and the last day of each of the
400 years, and those are a table.

The results are `civilFromDays_spec` and `civilFromDays_daysFromCivil` (`civilOfDoe_spec` and
`doeOfCivil_spec` within one era).
-/
namespace Cel.Time

/-- days of the era before the March-based year `y`: the expression of `civilOfDoe` / `doeOfCivil`
plus a term that vanishes below 400 and makes year 400 start where the next era does -/
def yStart (y : Nat) : Nat := y * 365 + y / 4 - y / 100 + y / 400

/-- the leap day of the March-based year `y` is the 29th of February of calendar year `y + 1` -/
def yLen (y : Nat) : Nat := if isLeap ((y : Int) + 1) then 366 else 365

/-- the year-of-era formula of `civilOfDoe` -/
def yoeOf (doe : Nat) : Nat := (doe - doe / 1460 + doe / 36524 - doe / 146096) / 365

theorem yStart_le {y : Nat} (h : y ≤ 400) : yStart y ≤ 146097 := by
  unfold yStart
  omega

theorem yLen_bounds (y : Nat) : 365 ≤ yLen y ∧ yLen y ≤ 366 := by
  unfold yLen
  split <;> omega

theorem yoeOf_mono {a b : Nat} (hab : a ≤ b) (hb : b < 146097) : yoeOf a ≤ yoeOf b := by
  induction hab with
  | refl => exact Nat.le_refl _
  | @step m _ ih =>
    refine Nat.le_trans (ih (by omega)) (Nat.div_le_div_right ?_)
    -- the last quotient moves only on the last day of the era; before it, it is zero
    by_cases hl : m = 146095
    · subst hl
      decide
    · rw [Nat.div_eq_of_lt (show m < 146096 by omega),
        Nat.div_eq_of_lt (show m + 1 < 146096 by omega)]
      omega

theorem year_table : ∀ y < 400, yoeOf (yStart y) = y ∧ yoeOf (yStart (y + 1) - 1) = y ∧
    yStart (y + 1) = yStart y + yLen y := by
  decide +kernel

theorem yStart_succ {y : Nat} (h : y < 400) : yStart (y + 1) = yStart y + yLen y :=
  (year_table y h).2.2

theorem yoeOf_lt {doe y : Nat} (hy : y ≤ 400) (h : doe < yStart y) : yoeOf doe < y := by
  cases y with
  | zero => exact absurd h (Nat.not_lt_zero _)
  | succ y =>
    have hle := yStart_le hy
    have := yoeOf_mono (Nat.le_sub_one_of_lt h) (by omega)
    rw [(year_table y hy).2.1] at this
    exact Nat.lt_succ_of_le this

theorem le_yoeOf {doe y : Nat} (hy : y < 400) (h : yStart y ≤ doe) (hd : doe < 146097) :
    y ≤ yoeOf doe := by
  have := yoeOf_mono h hd
  rwa [(year_table y hy).1] at this

theorem yoeOf_eq {doe y : Nat} (hy : y < 400) (h1 : yStart y ≤ doe) (h2 : doe < yStart (y + 1)) :
    yoeOf doe = y :=
  Nat.le_antisymm (Nat.le_of_lt_succ (yoeOf_lt hy h2))
    (le_yoeOf hy h1 (Nat.lt_of_lt_of_le h2 (yStart_le hy)))

theorem yoeOf_spec {doe : Nat} (h : doe < 146097) :
    yoeOf doe < 400 ∧ yStart (yoeOf doe) ≤ doe ∧ doe < yStart (yoeOf doe + 1) := by
  have hy : yoeOf doe < 400 := yoeOf_lt (Nat.le_refl _) h
  refine ⟨hy, Nat.le_of_not_lt fun hlt => Nat.lt_irrefl _ (yoeOf_lt (Nat.le_of_lt hy) hlt),
    Nat.lt_of_not_le fun hle => ?_⟩
  by_cases h9 : yoeOf doe + 1 < 400
  · exact Nat.not_succ_le_self _ (le_yoeOf h9 hle h)
  · rw [show yoeOf doe + 1 = 400 by omega] at hle
    exact Nat.lt_irrefl _ (Nat.lt_of_lt_of_le h hle)

/-- days before the month with March-based index `mp`, counted from the 1st of March -/
def mStart (mp : Nat) : Nat := (153 * mp + 2) / 5

theorem month_spec {doy : Nat} (h : doy < 366) :
    (5 * doy + 2) / 153 < 12 ∧ mStart ((5 * doy + 2) / 153) ≤ doy ∧
      doy < mStart ((5 * doy + 2) / 153 + 1) := by
  unfold mStart
  omega

theorem month_eq {doy mp : Nat} (h1 : mStart mp ≤ doy) (h2 : doy < mStart (mp + 1)) :
    (5 * doy + 2) / 153 = mp := by
  unfold mStart at h1 h2
  omega

/-- March-based index of month `m`, as in `doeOfCivil` -/
def mpOf (m : Nat) : Nat := if m > 2 then m - 3 else m + 9

/-- month of a March-based index, as in `civilOfDoe` -/
def monthOfMp (mp : Nat) : Nat := if mp < 10 then mp + 3 else mp - 9

theorem monthOfMp_spec {mp : Nat} (h : mp < 12) :
    mpOf (monthOfMp mp) = mp ∧ 1 ≤ monthOfMp mp ∧ monthOfMp mp ≤ 12 := by
  revert mp
  decide

theorem mpOf_spec {m : Nat} (h1 : 1 ≤ m) (h2 : m ≤ 12) : monthOfMp (mpOf m) = m ∧ mpOf m < 12 := by
  have : ∀ m ≤ 12, 1 ≤ m → monthOfMp (mpOf m) = m ∧ mpOf m < 12 := by decide
  exact this m h2 h1

/-- February, the last month, ends where the year does: hence the `min` -/
theorem month_tiling (y : Nat) {mp : Nat} (h : mp < 12) :
    mStart mp + daysInMonth ((y : Int) + 1) (monthOfMp mp) = min (mStart (mp + 1)) (yLen y) := by
  unfold daysInMonth yLen
  generalize isLeap ((y : Int) + 1) = leap
  revert leap mp
  decide

theorem daysInMonth_le (y : Int) (m : Nat) : daysInMonth y m ≤ 31 := by
  fun_cases daysInMonth y m
  all_goals decide

/-- day of a March-based year → month and day, as in `civilOfDoe` -/
def mdOfDoy (doy : Nat) : Nat × Nat :=
  (monthOfMp ((5 * doy + 2) / 153), doy - mStart ((5 * doy + 2) / 153) + 1)

/-- month and day → day of the March-based year, as in `doeOfCivil` -/
def doyOfMd (m d : Nat) : Nat := mStart (mpOf m) + d - 1

theorem mdOfDoy_spec (y : Nat) {doy : Nat} (h : doy < yLen y) :
    ∃ m d, mdOfDoy doy = (m, d) ∧ doyOfMd m d = doy ∧
      1 ≤ m ∧ m ≤ 12 ∧ 1 ≤ d ∧ d ≤ daysInMonth ((y : Int) + 1) m := by
  obtain ⟨hmp, hlo, hhi⟩ := month_spec (Nat.lt_of_lt_of_le h (yLen_bounds y).2)
  have ht := month_tiling y hmp
  obtain ⟨e, h1, h2⟩ := monthOfMp_spec hmp
  refine ⟨_, _, rfl, ?_, h1, h2, ?_, ?_⟩
  · unfold doyOfMd; rw [e]; omega
  · omega
  · omega

theorem doyOfMd_spec (y : Nat) {m d : Nat} (hm1 : 1 ≤ m) (hm : m ≤ 12) (hd1 : 1 ≤ d)
    (hd : d ≤ daysInMonth ((y : Int) + 1) m) :
    doyOfMd m d < yLen y ∧ mdOfDoy (doyOfMd m d) = (m, d) := by
  obtain ⟨e, hmp⟩ := mpOf_spec hm1 hm
  have ht := month_tiling y hmp
  rw [e] at ht
  have hmp' : (5 * doyOfMd m d + 2) / 153 = mpOf m := by
    unfold doyOfMd; exact month_eq (by omega) (by omega)
  refine ⟨by unfold doyOfMd; omega, ?_⟩
  unfold mdOfDoy
  rw [hmp', e]
  unfold doyOfMd
  congr 2
  omega

theorem civilOfDoe_eq {doe : Nat} (h : yoeOf doe < 400) :
    civilOfDoe doe = (yoeOf doe, mdOfDoy (doe - yStart (yoeOf doe))) := by
  have e : 365 * yoeOf doe + yoeOf doe / 4 - yoeOf doe / 100 = yStart (yoeOf doe) := by
    rw [yStart, Nat.div_eq_of_lt h, Nat.add_zero, Nat.mul_comm]
  show (yoeOf doe, mdOfDoy (doe - (365 * yoeOf doe + yoeOf doe / 4 - yoeOf doe / 100))) = _
  rw [e]

theorem doeOfCivil_eq {yoe : Nat} (h : yoe < 400) (m d : Nat) :
    doeOfCivil yoe m d = yStart yoe + doyOfMd m d := by
  show yoe * 365 + yoe / 4 - yoe / 100 + doyOfMd m d = _
  rw [yStart, Nat.div_eq_of_lt h, Nat.add_zero]

theorem civilOfDoe_spec (doe : Nat) (h : doe < 146097) :
    ∃ yoe m d, civilOfDoe doe = (yoe, m, d) ∧ doeOfCivil yoe m d = doe ∧ yoe < 400 ∧
      1 ≤ m ∧ m ≤ 12 ∧ 1 ≤ d ∧ d ≤ daysInMonth ((yoe : Int) + 1) m := by
  obtain ⟨hy, hlo, hhi⟩ := yoeOf_spec h
  rw [yStart_succ hy] at hhi
  obtain ⟨m, d, hmd, hdoy, hr⟩ := mdOfDoy_spec (yoeOf doe) (doy := doe - yStart (yoeOf doe)) (by omega)
  refine ⟨yoeOf doe, m, d, by rw [civilOfDoe_eq hy, hmd], ?_, hy, hr⟩
  rw [doeOfCivil_eq hy, hdoy]
  omega

theorem doeOfCivil_spec (yoe m d : Nat) (hy : yoe < 400) (hm1 : 1 ≤ m) (hm : m ≤ 12)
    (hd1 : 1 ≤ d) (hd : d ≤ daysInMonth ((yoe : Int) + 1) m) :
    doeOfCivil yoe m d < 146097 ∧ civilOfDoe (doeOfCivil yoe m d) = (yoe, m, d) := by
  obtain ⟨hlt, hinv⟩ := doyOfMd_spec yoe hm1 hm hd1 hd
  have hle : yStart (yoe + 1) ≤ 146097 := yStart_le hy
  rw [doeOfCivil_eq hy]
  have hyoe : yoeOf (yStart yoe + doyOfMd m d) = yoe :=
    yoeOf_eq hy (Nat.le_add_right ..) (by rw [yStart_succ hy]; omega)
  rw [yStart_succ hy] at hle
  refine ⟨by omega, ?_⟩
  rw [civilOfDoe_eq (by rw [hyoe]; exact hy), hyoe, Nat.add_sub_cancel_left, hinv]

/-- calendar year of month `m` of the March-based year `y`: January and February belong to the
next one -/
def calYear (y : Int) (m : Nat) : Int := if m ≤ 2 then y + 1 else y

theorem calYear_pred (y : Int) (m : Nat) :
    (if m ≤ 2 then calYear y m - 1 else calYear y m) = y := by
  unfold calYear
  split <;> omega

theorem isLeap_add_era (y era : Int) : isLeap (y + era * 400) = isLeap y := by
  have h (k : Int) (hk : k ∣ 400) : (y + era * 400) % k = y % k := by
    rw [← Int.emod_emod_of_dvd _ hk, Int.add_mul_emod_self_right, Int.emod_emod_of_dvd _ hk]
  unfold isLeap
  rw [h 4 (by decide), h 100 (by decide), h 400 (by decide)]

theorem daysInMonth_era (yoe : Nat) (era : Int) (m : Nat) :
    daysInMonth (calYear ((yoe : Int) + era * 400) m) m = daysInMonth ((yoe : Int) + 1) m := by
  unfold daysInMonth
  split
  · rw [calYear, if_pos (Nat.le_refl 2), Int.add_right_comm, isLeap_add_era]
  all_goals rfl

theorem ediv_emod_of_split {N r : Int} (q : Int) (h0 : 0 ≤ r) (h : r < N) :
    (r + q * N) / N = q ∧ (r + q * N) % N = r := by
  have hN : N ≠ 0 := by omega
  rw [Int.add_mul_ediv_right _ _ hN, Int.ediv_eq_zero_of_lt h0 h, Int.add_mul_emod_self_right,
    Int.emod_eq_of_lt h0 h, Int.zero_add]
  exact ⟨rfl, rfl⟩

theorem civilFromDays_spec (z : Int) :
    ∃ y m d, civilFromDays z = (y, m, d) ∧ daysFromCivil y m d = z ∧ 1 ≤ m ∧ m ≤ 12 ∧ 1 ≤ d ∧
      d ≤ daysInMonth y m := by
  have hnn : 0 ≤ (z + 719468) % 146097 := Int.emod_nonneg _ (by decide)
  obtain ⟨yoe, m, d, hc, hdoe, hy, hm1, hm, hd1, hd⟩ :=
    civilOfDoe_spec ((z + 719468) % 146097).toNat (by omega)
  refine ⟨calYear ((yoe : Int) + (z + 719468) / 146097 * 400) m, m, d, ?_, ?_, hm1, hm, hd1, ?_⟩
  · simp only [civilFromDays, hc, calYear]
  · obtain ⟨hq, hr⟩ := ediv_emod_of_split (N := 400) ((z + 719468) / 146097)
      (Int.natCast_nonneg yoe) (by omega)
    simp only [daysFromCivil, calYear_pred]
    rw [hq, hr, Int.toNat_natCast, hdoe, Int.toNat_of_nonneg hnn, Int.ediv_mul_add_emod,
      Int.add_sub_cancel]
  · rw [daysInMonth_era]; exact hd

theorem civilFromDays_daysFromCivil (y : Int) (m d : Nat) (hm1 : 1 ≤ m) (hm : m ≤ 12)
    (hd1 : 1 ≤ d) (hd : d ≤ daysInMonth y m) :
    civilFromDays (daysFromCivil y m d) = (y, m, d) := by
  generalize hy' : (if m ≤ 2 then y - 1 else y) = y'
  have hnn : 0 ≤ y' % 400 := Int.emod_nonneg _ (by decide)
  have hyeq : y = calYear (((y' % 400).toNat : Int) + y' / 400 * 400) m := by
    rw [Int.toNat_of_nonneg hnn, Int.emod_add_ediv_mul]
    unfold calYear
    split at hy' <;> omega
  rw [hyeq, daysInMonth_era] at hd
  obtain ⟨hlt, hciv⟩ := doeOfCivil_spec (y' % 400).toNat m d (by omega) hm1 hm hd1 hd
  simp only [daysFromCivil, hy']
  generalize doeOfCivil (y' % 400).toNat m d = doe at hlt hciv
  obtain ⟨hq, hr⟩ := ediv_emod_of_split (N := 146097) (y' / 400) (Int.natCast_nonneg doe)
    (by omega)
  simp only [civilFromDays]
  rw [Int.sub_add_cancel, Int.add_comm, hq, hr, Int.toNat_natCast, hciv]
  exact congrArg (·, m, d) hyeq.symm

end Cel.Time
