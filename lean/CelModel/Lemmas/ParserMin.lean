import CelModel.Lemmas.ParserSteps
/-!
# Reading a rendered tree back, construct by construct

One lemma per syntactic construct, about token lists: which parser function reads the construct,
given which functions read its parts.  Fuel bounds the depth of calls, and a loop spends one unit
per round; so a construct needs the largest need among its parts, plus a constant, plus — for a
part read inside a loop — the number of rounds before it: the `max … (… + n + 2)` of the statements.
A user builds a `Member` for atoms and suffix chains (`member_ident` …, `Member.select` …), a
`ParsesAt` or `ContL` for operator nodes (`parsesAt_cond`, `parsesAt_logic`, `contL_bin`), changes
level with `ParsesAt.down` and ends with `ParsesAt.parseTop`.
-/
namespace Cel.Lemmas.ParserMin
open Cel.Parser Cel.Lemmas.ParserSteps Cel.Lemmas.ParserLevels

/-- starts with a token that is no prefix operator, so that `parseUnary` hands the text through -/
inductive HeadOk : Toks → Prop
  | ident (n : Str) (r : Toks) : HeadOk (.ident n :: r)
  | int (d : Str) (r : Toks) : HeadOk (.int d :: r)
  | paren (r : Toks) : HeadOk (.sym "(" :: r)
  | brack (r : Toks) : HeadOk (.sym "[" :: r)
  | brace (r : Toks) : HeadOk (.sym "{" :: r)

theorem HeadOk.append {ts : Toks} (h : HeadOk ts) (r : Toks) : HeadOk (ts ++ r) := by
  cases h <;> constructor

theorem HeadOk.runLen_not {ts : Toks} (h : HeadOk ts) : runLen "!" ts = 0 := by
  cases h <;> simp [runLen]

theorem HeadOk.runLen_neg {ts : Toks} (h : HeadOk ts) : runLen "-" ts = 0 := by
  cases h <;> simp [runLen]

theorem HeadOk.not_num {ts : Toks} (h : HeadOk ts) (hni : ∀ d r, ts ≠ .int d :: r) (rest : Toks) :
    (match ts ++ rest with | .int _ :: _ => true | .float _ :: _ => true | _ => false) = false := by
  cases h with
  | int d r => exact absurd rfl (hni d r)
  | _ => rfl

/-- With any fuel above `f`, the function of grammar level `p` (`pfun`: 0 `parseExpr` … 7 `parseMember`)
reads `ts` off the front of `ts ++ rest` and returns `e`, whenever the next token binds more loosely
than level `p`.  `lvl` counts the other way, from the tightest: an operator of level `p` has
`lvl = 6 - p`, so `6 - p < lvl (hd rest)` says that the next token neither continues nor extends an
operand of level `p` (in `Nat`, `6 - 7 = 0`: the member level asks `0 < lvl`). -/
def ParsesAt (p f : Nat) (ts : Toks) (e : Expr) : Prop :=
  ∀ g rest, f ≤ g → 6 - p < lvl (hd rest) → pfun p (g + 1) (ts ++ rest) = some (e, rest)

theorem ParsesAt.mono {p f f' : Nat} {ts : Toks} {e : Expr} (h : ParsesAt p f ts e) (hf : f ≤ f') :
    ParsesAt p f' ts e := fun g rest hg hl => h g rest (by omega) hl

theorem ParsesAt.before {f g : Nat} {ts : Toks} {e : Expr} (h : ParsesAt 0 f ts e) {s : String}
    (hs : lvl s = 7) (hg : f ≤ g) (r : Toks) :
    parseExpr (g + 1) (ts ++ .sym s :: r) = some (e, .sym s :: r) :=
  h g _ hg (by rw [hd_sym, hs]; omega)

/-- every level in between hands the construct through; `parseUnary` does so when no prefix operator
leads, hence `HeadOk` for a member expression -/
theorem ParsesAt.downBy {f : Nat} {ts : Toks} {e : Expr} :
    ∀ (d p : Nat), p + d ≤ 7 → (p + d = 7 → HeadOk ts) → ParsesAt (p + d) f ts e → ParsesAt p (f + d) ts e
  | 0, _, _, _, h => h
  | d + 1, p, hp, hh, h => by
    have h1 : ParsesAt (p + 1) (f + d) ts e :=
      ParsesAt.downBy d (p + 1) (by omega) (fun he => hh (by omega))
        (by rwa [show p + 1 + d = p + (d + 1) by omega])
    intro g rest hg hl
    obtain ⟨g, rfl⟩ := Nat.exists_eq_add_one_of_ne_zero (by omega : g ≠ 0)
    have h2 := h1 g rest (by omega) (by omega)
    by_cases h6 : p = 6
    · subst h6
      have hh := (hh (by omega)).append rest
      exact (parseUnary_plain hh.runLen_not hh.runLen_neg).trans h2
    · exact pfun_down (by omega) h2 hl

theorem ParsesAt.down {p q f : Nat} {ts : Toks} {e : Expr} (h : ParsesAt q f ts e) (hpq : p ≤ q) (hq : q ≤ 7)
    (hh : q = 7 → HeadOk ts) : ParsesAt p (f + (q - p)) ts e := by
  obtain ⟨d, rfl⟩ : ∃ d, q = p + d := ⟨q - p, by omega⟩
  rw [Nat.add_sub_cancel_left]
  exact ParsesAt.downBy d p hq hh h

theorem ParsesAt.expr {p f : Nat} {ts : Toks} {e : Expr} (h : ParsesAt p f ts e) (hp : p ≤ 6) :
    ParsesAt 0 (f + p) ts e :=
  h.down (Nat.zero_le p) (by omega) (fun h7 => absurd h7 (by omega))

/-- The one place where the `40 * (tokens + 2)` of `parseTop` is shown to be enough: for a token list
that is read with less.  No lemma says that more fuel leaves a result unchanged. -/
theorem ParsesAt.parseTop {f : Nat} {ts : Toks} {e : Expr} (h : ParsesAt 0 f ts e)
    (hf : f < 40 * (ts.length + 2)) : parseTop ts = some e := by
  obtain ⟨g, hg⟩ : ∃ g, 40 * (ts.length + 2) = g + 1 := ⟨_, (Nat.succ_pred_eq_of_pos (by omega)).symm⟩
  have hE := h g [] (by omega) (by simp [lvl_empty])
  rw [List.append_nil, ← hg] at hE
  exact parseTop_of hE

/-- what may follow a primary inside a member expression -/
inductive SufRest : Toks → Prop
  | stop (r : Toks) : 0 < lvl (hd r) → SufRest r
  | sel (f : Str) (r : Toks) : SufRest r → SufRest (.sym "." :: .ident f :: r)
  | call (f : Str) (r : Toks) : SufRest (.sym "." :: .ident f :: .sym "(" :: r)
  | idx (r : Toks) : SufRest (.sym "[" :: r)

theorem SufRest.hd_ne {r : Toks} (h : SufRest r) : hd r ≠ "(" ∧ hd r ≠ "{" := by
  cases h with
  | stop r hl =>
    obtain ⟨_, _, hbrace, hparen⟩ := lvl_pos hl
    exact ⟨hparen, hbrace⟩
  | sel f r _ => simp
  | call f r => simp
  | idx r => simp

theorem messageHead_sufRest {r : Toks} (h : SufRest r) :
    ∀ (n : Str) (k : Nat), messageHead k (.ident n :: r) = none := by
  induction h with
  | stop r hl =>
    intro n k
    obtain ⟨hdot, _, hbrace, _⟩ := lvl_pos hl
    exact messageHead_ident k n r hdot hbrace
  | sel f r _ ih =>
    intro n k
    cases k with
    | zero => rfl
    | succ k => simp [messageHead, ih f k]
  | call f r =>
    intro n k
    cases k with
    | zero => rfl
    | succ k => simp [messageHead, messageHead_ident k f (.sym "(" :: r) (by simp) (by simp)]
  | idx r => intro n k; exact messageHead_ident k n _ (by simp) (by simp)

theorem parsePrimary_ident {f : Nat} {n : Str} {r : Toks} (h : SufRest r) :
    parsePrimary (f + 1) (.ident n :: r) = some (.ident (String.ofList n), r) := by
  rw [parsePrimary, messageHead_sufRest h]
  exact fun r' hr => h.hd_ne.1 (by rw [hr, hd_sym])

/-- with more than `f` units `level` arrives in its loop at `rest` holding `e`, having spent `m ≤ n`
units on the way, one per operator or suffix passed: `n` bounds the length of the chain, `f` the
depth of what is nested in it; `m < f` with `f ≤ g + m` gives `g ≠ 0`, the loop is entered with
fuel left -/
def Cont (level : PFun) (loop : Nat → Toks → Expr → Option (Expr × Toks)) (ok : Toks → Prop)
    (f n : Nat) (ts : Toks) (e : Expr) : Prop :=
  ∃ m, m ≤ n ∧ m < f ∧ ∀ g rest, f ≤ g + m → ok rest → level (g + m + 1) (ts ++ rest) = loop g rest e

/-- `Cont` for the suffix loop and for the loop of the binary level `p` = 3, 4, 5 (where an operator
of level `p` itself may follow: `5 - p`) -/
abbrev Cont7 : Nat → Nat → Toks → Expr → Prop := Cont parseMember parseSuffix SufRest
abbrev ContL (p : Nat) : Nat → Nat → Toks → Expr → Prop :=
  Cont (pfun p) (loopL (ops p) (pfun (p + 1))) (fun rest => 5 - p < lvl (hd rest))

section
variable {p f f' n n' : Nat} {ts : Toks} {e : Expr}

theorem Cont.mono {level : PFun} {loop : Nat → Toks → Expr → Option (Expr × Toks)} {ok : Toks → Prop}
    (h : Cont level loop ok f n ts e) (hf : f ≤ f') (hn : n ≤ n') : Cont level loop ok f' n' ts e := by
  obtain ⟨m, hm, hmf, h⟩ := h
  exact ⟨m, by omega, by omega, fun g rest hg => h g rest (by omega)⟩

theorem Cont7.parsesAt (h : Cont7 f n ts e) : ParsesAt 7 f ts e := by
  obtain ⟨m, _, hmf, h⟩ := h
  intro g rest hg hl
  obtain ⟨g, rfl⟩ : ∃ g', g = g' + 1 + m := ⟨g - 1 - m, by omega⟩
  have hl' : 0 < lvl (hd rest) := by omega
  obtain ⟨hdot, hbrack, _, _⟩ := lvl_pos hl'
  show parseMember (g + 1 + m + 1) _ = _
  rw [h (g + 1) rest (by omega) (.stop rest hl'), parseSuffix_stop hdot hbrack]

theorem ContL.parsesAt (h3 : 3 ≤ p) (h5 : p ≤ 5) (h : ContL p f n ts e) : ParsesAt p f ts e := by
  obtain ⟨m, _, hmf, h⟩ := h
  intro g rest hg hl
  obtain ⟨g, rfl⟩ : ∃ g', g = g' + 1 + m := ⟨g - 1 - m, by omega⟩
  rw [h (g + 1) rest (by omega) (by omega), loopL_stop (ops_none h3 h5 hl)]

theorem ContL.ofParsesAt (h3 : 3 ≤ p) (h5 : p ≤ 5) (h : ParsesAt (p + 1) f ts e) : ContL p (f + 1) 0 ts e := by
  refine ⟨0, Nat.le_refl _, by omega, fun g rest hg hl => ?_⟩
  obtain ⟨g, rfl⟩ := Nat.exists_eq_add_one_of_ne_zero (by omega : g ≠ 0)
  rw [pfun_levelL h3 h5, levelL_of (h g rest (by omega) (by omega))]
end

/-- a member expression with at most `n` suffixes, no prefix operator in front -/
structure Member (f n : Nat) (ts : Toks) (e : Expr) : Prop where
  cont : Cont7 f n ts e
  hd : HeadOk ts

section
variable {f f' n n' : Nat} {ts : Toks} {e : Expr}

theorem Member.mono (h : Member f n ts e) (hf : f ≤ f') (hn : n ≤ n') : Member f' n' ts e :=
  ⟨h.cont.mono hf hn, h.hd⟩

theorem Member.parsesAt (h : Member f n ts e) {p : Nat} (hp : p ≤ 7) : ParsesAt p (f + (7 - p)) ts e :=
  h.cont.parsesAt.down hp (Nat.le_refl _) (fun _ => h.hd)

theorem member_primary (hh : HeadOk ts)
    (h : ∀ g rest, f ≤ g → SufRest rest → parsePrimary (g + 1) (ts ++ rest) = some (e, rest)) :
    Member (f + 1) 0 ts e := by
  refine ⟨⟨0, Nat.le_refl _, by omega, fun g rest hg hr => ?_⟩, hh⟩
  obtain ⟨g, rfl⟩ := Nat.exists_eq_add_one_of_ne_zero (by omega : g ≠ 0)
  exact parseMember_of (h g rest (by omega) hr)
end

theorem member_ident (n : Str) : Member 1 0 [.ident n] (.ident (String.ofList n)) :=
  member_primary (.ident n []) fun _ _ _ hr => parsePrimary_ident hr

theorem member_int {t : Str} {e : Expr} (h : intLiteral false t = some e) : Member 1 0 [.int t] e :=
  member_primary (.int t []) fun g rest _ _ => by
    show parsePrimary (g + 1) (.int t :: rest) = _
    rw [parsePrimary_int, h]; rfl

theorem member_paren {f : Nat} {ts : Toks} {e : Expr} (h : ParsesAt 0 f ts e) :
    Member (f + 2) 0 ([.sym "("] ++ ts ++ [.sym ")"]) e :=
  member_primary (.paren _) fun g rest hg _ => by
    obtain ⟨g, rfl⟩ := Nat.exists_eq_add_one_of_ne_zero (by omega : g ≠ 0)
    simp only [List.append_assoc, List.cons_append, List.nil_append]
    exact parsePrimary_paren (h.before lvl_rparen (by omega) rest)

/-- `+ 9`: seven levels down to `parseExpr` inside the parentheses, 2 of `member_paren` -/
theorem Member.paren {f n : Nat} {ts : Toks} {e : Expr} (h : Member f n ts e) :
    Member (f + 9) 0 ([.sym "("] ++ ts ++ [.sym ")"]) e :=
  member_paren (h.parsesAt (Nat.zero_le 7))

section
variable {fa n : Nat} {A : Toks} {ea : Expr} (ha : Member fa n A ea)
include ha

theorem Member.select (fld : Str) :
    Member (fa + 1) (n + 1) (A ++ [.sym ".", .ident fld]) (.select ea fld false) := by
  obtain ⟨m, hm, hmf, h⟩ := ha.cont
  refine ⟨⟨m + 1, by omega, by omega, fun g rest hg hr => ?_⟩, ha.hd.append _⟩
  simp only [List.append_assoc, List.cons_append, List.nil_append]
  rw [show g + (m + 1) + 1 = g + 1 + m + 1 by omega, h (g + 1) _ (by omega) (.sel fld rest hr),
    parseSuffix_select hr.hd_ne.1]

theorem Member.index {fi : Nat} {I : Toks} {ei : Expr} (hi : ParsesAt 0 fi I ei) :
    Member (max fa (fi + n + 2)) (n + 1) (A ++ [.sym "["] ++ I ++ [.sym "]"]) (.call "_[_]" [ea, ei]) := by
  obtain ⟨m, hm, hmf, h⟩ := ha.cont
  refine ⟨⟨m + 1, by omega, by omega, fun g rest hg _ => ?_⟩, by
    simp only [List.append_assoc]; exact ha.hd.append _⟩
  obtain ⟨g, rfl⟩ := Nat.exists_eq_add_one_of_ne_zero (by omega : g ≠ 0)
  simp only [List.append_assoc, List.cons_append, List.nil_append]
  rw [show g + 1 + (m + 1) + 1 = g + 1 + 1 + m + 1 by omega, h (g + 1 + 1) _ (by omega) (.idx _),
    parseSuffix_index (hi.before lvl_rbrack (by omega) rest)]

theorem Member.not : ParsesAt 6 (fa + 1) ([.sym "!"] ++ A) (.call "!_" [ea]) := by
  intro g rest hg hl
  obtain ⟨g, rfl⟩ := Nat.exists_eq_add_one_of_ne_zero (by omega : g ≠ 0)
  exact parseUnary_not (ha.hd.append rest).runLen_not (ha.cont.parsesAt g rest (by omega) (by omega))

/-- a `-` directly before a numeral would be read as its sign -/
theorem Member.neg (hni : ∀ d r, A ≠ .int d :: r) : ParsesAt 6 (fa + 1) ([.sym "-"] ++ A) (.call "-_" [ea]) := by
  intro g rest hg hl
  obtain ⟨g, rfl⟩ := Nat.exists_eq_add_one_of_ne_zero (by omega : g ≠ 0)
  exact parseUnary_neg (ha.hd.not_num hni rest) (ha.hd.append rest).runLen_neg
    (ha.cont.parsesAt g rest (by omega) (by omega))
end

theorem parsesAt_cond {fc fa fb : Nat} {C A B : Toks} {ec ea eb : Expr} (hc : ParsesAt 1 fc C ec)
    (ha : ParsesAt 1 fa A ea) (hb : ParsesAt 0 fb B eb) :
    ParsesAt 0 (max (max fc fa) fb + 1) (C ++ [.sym "?"] ++ A ++ [.sym ":"] ++ B)
      (.call "_?_:_" [ec, ea, eb]) := by
  intro g rest hg hl
  obtain ⟨g, rfl⟩ := Nat.exists_eq_add_one_of_ne_zero (by omega : g ≠ 0)
  have hC : parseOr (g + 1) (C ++ .sym "?" :: (A ++ .sym ":" :: (B ++ rest))) = some (ec, _) :=
    hc g _ (by omega) (by simp [lvl_quest])
  have hA : parseOr (g + 1) (A ++ .sym ":" :: (B ++ rest)) = some (ea, _) :=
    ha g _ (by omega) (by simp [lvl_colon])
  have hB : parseExpr (g + 1) (B ++ rest) = some (eb, rest) := hb g rest (by omega) hl
  simp only [List.append_assoc, List.cons_append, List.nil_append]
  exact parseExpr_cond hC hA hB

theorem parsesAt_logic {p fa fb : Nat} (h1 : 1 ≤ p) (h2 : p ≤ 2) {A B : Toks} {ea eb : Expr}
    (ha : ParsesAt (p + 1) fa A ea) (hb : ParsesAt (p + 1) fb B eb) :
    ParsesAt p (max fa fb + 2) (A ++ [.sym (ltok p)] ++ B) (.call (lname p) [ea, eb]) := by
  intro g rest hg hl
  obtain ⟨g, rfl⟩ : ∃ g', g = g' + 2 := ⟨g - 2, by omega⟩
  have hA : pfun (p + 1) (g + 2) (A ++ .sym (ltok p) :: (B ++ rest)) = some (ea, _) :=
    ha (g + 1) _ (by omega) (by simp [lvl_ltok h1 h2]; omega)
  have hB : pfun (p + 1) (g + 1) (B ++ rest) = some (eb, rest) := hb g rest (by omega) (by omega)
  simp only [List.append_assoc, List.cons_append, List.nil_append]
  rw [pfun_levelLogic h1 h2]
  exact levelLogic_pair hA hB (ne_ltok h1 h2 hl)

theorem contL_bin {p fa fb n : Nat} (h3 : 3 ≤ p) (h5 : p ≤ 5) {A B : Toks} {ea eb : Expr}
    (ha : ContL p fa n A ea) (hb : ParsesAt (p + 1) fb B eb) {s nm : String} (hop : ops p s = some nm) :
    ContL p (max fa (fb + n + 2)) (n + 1) (A ++ [.sym s] ++ B) (.call nm [ea, eb]) := by
  obtain ⟨m, hm, hmf, h⟩ := ha
  refine ⟨m + 1, by omega, by omega, fun g rest hg hl => ?_⟩
  -- spares `omega` the `max`
  have hga : fa ≤ g + (m + 1) := Nat.le_trans (Nat.le_max_left ..) hg
  have hgb : fb + n + 2 ≤ g + (m + 1) := Nat.le_trans (Nat.le_max_right ..) hg
  clear hg
  obtain ⟨g, rfl⟩ := Nat.exists_eq_add_one_of_ne_zero (by omega : g ≠ 0)
  have hB : pfun (p + 1) (g + 1) (B ++ rest) = some (eb, rest) := hb g rest (by omega) (by omega)
  have hs : 5 - p < lvl (hd (.sym s :: (B ++ rest))) := by
    rw [hd_sym, ops_lvl h3 h5 hop]
    omega
  simp only [List.append_assoc, List.cons_append, List.nil_append]
  rw [show g + 1 + (m + 1) + 1 = g + 1 + 1 + m + 1 by omega, h (g + 1 + 1) _ (by omega) hs,
    loopL_more hop hB]

theorem parsesAt_bin {p fa fb : Nat} (h3 : 3 ≤ p) (h5 : p ≤ 5) {A B : Toks} {ea eb : Expr}
    (ha : ParsesAt (p + 1) fa A ea) (hb : ParsesAt (p + 1) fb B eb) {s nm : String} (hop : ops p s = some nm) :
    ParsesAt p (max fa fb + 2) (A ++ [.sym s] ++ B) (.call nm [ea, eb]) :=
  ((contL_bin h3 h5 (ContL.ofParsesAt h3 h5 ha) hb hop).parsesAt h3 h5).mono (by omega)

end Cel.Lemmas.ParserMin
