import CelModel.Lemmas.Steps
/-!
# Observational equality modulo the step counter

`Obs m1 m2`: started from two states with the same host-call log (the step counters may differ),
`m1` and `m2` produce the same outcome and the same log.  This is a congruence for `>>=` without
side conditions; every steps-independent computation is related to itself.
-/
namespace Cel

def Obs (m1 m2 : EvalM α) : Prop :=
  ∀ s1 s2 : St Value, s1.log = s2.log → (m1 s1).1 = (m2 s2).1 ∧ (m1 s1).2.log = (m2 s2).2.log

theorem SI.obs {m : EvalM α} (h : SI m) : Obs m m := by
  intro s1 s2 hl
  have e1 : s1 = shiftSt s1.steps { log := s1.log, steps := 0 } := by
    simp [shiftSt]
  have e2 : s2 = shiftSt s2.steps { log := s1.log, steps := 0 } := by
    simp only [shiftSt] at *
    simp [hl]
  rw [e1, e2, h, h]
  exact ⟨rfl, rfl⟩

namespace Obs

theorem symm {m1 m2 : EvalM α} (h : Obs m1 m2) : Obs m2 m1 := by
  intro s1 s2 hl
  have := h s2 s1 hl.symm
  exact ⟨this.1.symm, this.2.symm⟩

theorem trans {m1 m2 m3 : EvalM α} (h1 : Obs m1 m2) (h2 : Obs m2 m3) : Obs m1 m3 := by
  intro s1 s3 hl
  have a := h1 s1 s1 rfl
  have b := h2 s1 s3 hl
  exact ⟨a.1.trans b.1, a.2.trans b.2⟩

theorem of_eq {m1 m2 : EvalM α} (e : m1 = m2) (h : Obs m2 m2) : Obs m1 m2 := by
  subst e; exact h

theorem pure {a : α} : Obs (Pure.pure a : EvalM α) (Pure.pure a) := fun _ _ hl => ⟨rfl, hl⟩
theorem throw {e : ErrC} : Obs (M.throw e : EvalM α) (M.throw e) := fun _ _ hl => ⟨rfl, hl⟩
theorem lift {o : Outcome α} : Obs (M.lift o : EvalM α) (M.lift o) := fun _ _ hl => ⟨rfl, hl⟩

theorem bind {m1 m2 : EvalM α} {f g : α → EvalM γ} (hm : Obs m1 m2)
    (hf : ∀ a, Obs (f a) (g a)) : Obs (m1 >>= f) (m2 >>= g) := by
  intro s1 s2 hl
  have h := hm s1 s2 hl
  rw [M.bind_apply, M.bind_apply]
  rcases h1 : m1 s1 with ⟨o1, t1⟩
  rcases h2 : m2 s2 with ⟨o2, t2⟩
  rw [h1, h2] at h
  obtain ⟨ho, ht⟩ := h
  subst ho
  cases o1 with
  | ok a => exact hf a t1 t2 ht
  | err e => exact ⟨rfl, ht⟩
  | panic p => exact ⟨rfl, ht⟩

theorem tick_left {m : Unit → EvalM α} {m' : EvalM α} (h : Obs (m ()) m') :
    Obs (M.tick >>= m) m' := by
  intro s1 s2 hl
  exact h (tickSt s1) s2 hl

theorem bind_pure_left {m : EvalM α} {a : α} {f : α → EvalM γ} {g : EvalM γ}
    (hm : Obs m (Pure.pure a)) (hf : Obs (f a) g) : Obs (m >>= f) g := by
  intro s1 s2 hl
  have h := hm s1 s1 rfl
  rw [M.bind_apply]
  rcases h1 : m s1 with ⟨o1, t1⟩
  rw [h1] at h
  obtain ⟨ho, ht⟩ := h
  subst ho
  exact hf t1 s2 (ht.trans hl)

theorem ite {c : Prop} [Decidable c] {a b a' b' : EvalM α} (ha : c → Obs a a')
    (hb : ¬ c → Obs b b') : Obs (if c then a else b) (if c then a' else b') := by
  split
  · exact ha ‹_›
  · exact hb ‹_›

end Obs

theorem eval_obs (e : Expr) (ctx : Ctx) : Obs (eval ctx e) (eval ctx e) := (eval_SI e ctx).obs

end Cel
