import CelModel.Lemmas.Closed
/-!
# A Hoare-style calculus for the evaluation monad

`Sat m Q E`: from every state, `m` yields a value satisfying `Q` or an execution error satisfying
`E`, never a panic.  The rules follow the `do` blocks of the model one bind at a time;
`Sat · Any Any` is a closed family (`Sat.closed`).  `SatW` is `Sat` with what a panic satisfies as
a parameter: it carries the two rules that `SatP` (`Lemmas/Undecl.lean`) has as well.
-/
namespace Cel

def Sat (m : M β α) (Q : α → Prop) (E : ErrC → Prop) : Prop :=
  ∀ s, match m s with
    | (.ok a, _) => Q a
    | (.err e, _) => E e
    | (.panic _, _) => False

abbrev Any {α : Type} : α → Prop := fun _ => True

/-- `Sat` and `SatP` (`Lemmas/Undecl.lean`) at once: `W` is what a panic satisfies -/
def SatW (W : Prop) (m : M β α) (Q : α → Prop) (E : ErrC → Prop) : Prop :=
  ∀ s, match m s with
    | (.ok a, _) => Q a
    | (.err e, _) => E e
    | (.panic _, _) => W

theorem SatW.bind_ret {W : Prop} {m : M β α} {f : α → M β γ} {Q : α → Prop} {R : γ → Prop}
    {E : ErrC → Prop} (hm : SatW W m Q E) (hf : ∀ a, Q a → Ret m a → SatW W (f a) R E) :
    SatW W (m >>= f) R E := by
  intro s
  have h1 := hm s
  rw [M.bind_apply]
  rcases h : m s with ⟨o, s'⟩
  rw [h] at h1
  cases o with
  | ok a => exact hf a h1 ⟨s, s', h⟩ s'
  | err e => exact h1
  | panic p => exact h1

theorem SatW.weaken {W : Prop} {m : M β α} {Q Q' : α → Prop} {E E' : ErrC → Prop}
    (h : SatW W m Q E) (hq : ∀ a, Q a → Q' a) (he : ∀ e, E e → E' e) : SatW W m Q' E' := by
  intro s
  have := h s
  split at this
  · exact hq _ this
  · exact he _ this
  · exact this

namespace Sat

theorem pure {a : α} {Q : α → Prop} {E : ErrC → Prop} (h : Q a) :
    Sat (Pure.pure a : M β α) Q E := by
  intro s; exact h

theorem throw {e : ErrC} {Q : α → Prop} {E : ErrC → Prop} (h : E e) :
    Sat (M.throw e : M β α) Q E := by
  intro s; exact h

theorem lift {o : Outcome α} {Q : α → Prop} {E : ErrC → Prop}
    (h : match o with | .ok a => Q a | .err e => E e | .panic _ => False) :
    Sat (M.lift o : M β α) Q E := by
  intro s
  cases o <;> exact h

theorem tick {Q : Unit → Prop} {E : ErrC → Prop} (h : Q ()) : Sat (M.tick : M β Unit) Q E := by
  intro s; exact h

theorem logCall {c : Call β} {Q : Unit → Prop} {E : ErrC → Prop} (h : Q ()) :
    Sat (M.logCall c : M β Unit) Q E := by
  intro s; exact h

theorem not_panic {p : String} {Q : α → Prop} {E : ErrC → Prop} :
    ¬ Sat (M.panic p : M β α) Q E := by
  intro h; exact h {}

/-- `bind` whose continuation also learns that `m` can return `a`: for a fact about the value that
`Q` does not carry (`C20.host_receives_declared_types`); likewise in `Cost`, `LogB`, `SI` -/
theorem bind_ret {m : M β α} {f : α → M β γ} {Q : α → Prop} {R : γ → Prop} {E : ErrC → Prop}
    (hm : Sat m Q E) (hf : ∀ a, Q a → Ret m a → Sat (f a) R E) : Sat (m >>= f) R E :=
  SatW.bind_ret (W := False) hm hf

theorem bind {m : M β α} {f : α → M β γ} {Q : α → Prop} {R : γ → Prop} {E : ErrC → Prop}
    (hm : Sat m Q E) (hf : ∀ a, Q a → Sat (f a) R E) : Sat (m >>= f) R E :=
  bind_ret hm fun a h _ => hf a h

theorem tick_bind {f : Unit → M β γ} {R : γ → Prop} {E : ErrC → Prop} (h : Sat (f ()) R E) :
    Sat (M.tick >>= f) R E :=
  bind (Q := Any) (tick trivial) (fun _ _ => h)

theorem ite {c : Prop} [Decidable c] {a b : M β α} {Q : α → Prop} {E : ErrC → Prop}
    (ha : c → Sat a Q E) (hb : ¬ c → Sat b Q E) : Sat (if c then a else b) Q E := by
  split
  · exact ha ‹_›
  · exact hb ‹_›

theorem of_ret {m : M β α} {Q Q' : α → Prop} {E : ErrC → Prop} (h : Sat m Q E)
    (hq : ∀ a, Ret m a → Q' a) : Sat m Q' E := by
  intro s
  have := h s
  split at this
  · rename_i a s' heq; exact hq a ⟨s, s', heq⟩
  · exact this
  · exact this

theorem weaken {m : M β α} {Q Q' : α → Prop} {E E' : ErrC → Prop}
    (h : Sat m Q E) (hq : ∀ a, Q a → Q' a) (he : ∀ e, E e → E' e) : Sat m Q' E' :=
  SatW.weaken (W := False) h hq he

theorem toAny {m : M β α} {Q : α → Prop} {E : ErrC → Prop} (h : Sat m Q E) : Sat m Any Any :=
  h.weaken (fun _ _ => trivial) (fun _ _ => trivial)

theorem isPanic_eq_false {m : M β α} {Q : α → Prop} {E : ErrC → Prop} (h : Sat m Q E) (s : St β) :
    ((m s).1).isPanic = false := by
  have := h s
  split at this
  · rename_i heq
    rw [heq]
    rfl
  · rename_i heq
    rw [heq]
    rfl
  · exact this.elim

theorem of_isPanic_eq_false {m : M β α} (h : ∀ s, ((m s).1).isPanic = false) : Sat m Any Any := by
  intro s
  have := h s
  split
  · trivial
  · trivial
  · rename_i heq
    rw [heq] at this
    simp [Outcome.isPanic] at this

theorem closed : Closed (fun _ {_} m => Sat m Any Any) (fun _ => True) :=
  .const (fun _ => pure trivial) (fun _ => throw trivial) (tick trivial)
    (fun _ => logCall trivial) (fun hm hf => bind_ret hm fun a _ => hf a)

end Sat
end Cel
