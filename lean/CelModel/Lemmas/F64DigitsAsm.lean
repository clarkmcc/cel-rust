import CelModel.Lemmas.F64DigitsCore
import CelModel.Lemmas.F64Bits
/-!
# Burger–Dybvig digit generation: set-up facts and assembly

`shortestDigits` is cut into its set-up `bdSetup` and the three loops `bdCore` (`shortestDigits_eq`).
The set-up yields the value `r/s` and the half-gaps `m⁺/s`, `m⁻/s` in the units of `InInterval`
(`bdSetup_spec`) within the bounds the fuels of the loops need (`bd_bounds`); the loops return digits
`Within` those gaps (`bdCore_spec`, from `F64DigitsCore`); `Within.inInterval` turns that into
`InInterval`.  The result is `shortestDigits_spec`.
-/
namespace Cel.F64

def bdSetup (m : Nat) (e : Int) : Nat × Nat × Nat × Nat :=
  let boundary := isBoundary m e
  if e ≥ 0 then
    let be := 2 ^ e.toNat
    if !boundary then (m * be * 2, 2, be, be) else (m * be * 4, 4, be * 2, be)
  else
    let be := 2 ^ (-e).toNat
    if !boundary then (m * 2, be * 2, 1, 1) else (m * 4, be * 4, 2, 1)

/-- `shortestDigits` after its set-up -/
def bdCore (ev : Bool) (r s mp mm : Nat) : Int × List Nat :=
  match shortestDigits.up ev r mp 400 s 0 with
  | (s, k) =>
    match shortestDigits.down ev 400 r mp mm s k with
    | (r, mp, mm, k) => (k, genDigits 800 (r * 10) s (mp * 10) (mm * 10) ev ev [])

theorem shortestDigits_eq {m : Nat} {e : Int} {r s mp mm : Nat}
    (h : bdSetup m e = (r, s, mp, mm)) :
    shortestDigits m e = bdCore (m % 2 == 0) r s mp mm := by
  -- this has to hold by `rfl` without the loops `up 400`, `down 400` being unfolded: so it is stated
  -- with the `match` of the definition and not with projections of `bdSetup m e`
  have : shortestDigits m e =
      (match bdSetup m e with | (r, s, mp, mm) => bdCore (m % 2 == 0) r s mp mm) := rfl
  rw [this, h]

/-- the sign of the exponent decides only on which side the power of two goes: with `A = 2^e⁺`,
`B = 2^e⁻` the quadruple has one shape -/
theorem bdSetup_eq (m : Nat) (e : Int) (he : -1074 ≤ e) :
    ∃ A B : Nat, 0 < A ∧ 0 < B ∧ unit4 e * B = A * 2 ^ 1074 ∧
      bdSetup m e =
        if isBoundary m e = true then (m * A * 4, B * 4, A * 2, A) else (m * A * 2, B * 2, A, A) := by
  unfold bdSetup unit4
  by_cases he0 : e ≥ 0
  · refine ⟨2 ^ e.toNat, 1, Nat.two_pow_pos _, Nat.one_pos, ?_, ?_⟩
    · rw [Nat.mul_one]
      exact (congrArg (2 ^ ·) (by omega : (e + 1074).toNat = e.toNat + 1074)).trans
        (Nat.pow_add 2 _ 1074)
    · cases isBoundary m e <;> simp [he0]
  · refine ⟨1, 2 ^ (-e).toNat, Nat.one_pos, Nat.two_pow_pos _, ?_, ?_⟩
    · calc 2 ^ (e + 1074).toNat * 2 ^ (-e).toNat = 2 ^ ((e + 1074).toNat + (-e).toNat) :=
            (Nat.pow_add 2 _ _).symm
        _ = 2 ^ 1074 := congrArg (2 ^ ·) (by omega)
        _ = 1 * 2 ^ 1074 := (Nat.one_mul _).symm
    · cases isBoundary m e <;> simp [he0]

/-- the three set-up equations over variables: `h` is 2 at a binade boundary and 1 otherwise,
`δ = 2 / h` what `lowQ` subtracts, `U * B = A * W` the exponent -/
theorem setup_eqs (m A B U W h δ q : Nat) (hU : U * B = A * W) (hδ : δ * h = 2)
    (hq : q + δ = 4 * m) :
    m * A * (2 * h) * (4 * W) = q * U * (B * (2 * h)) + A * (4 * W) ∧
    (m * A * (2 * h) + A * h) * (4 * W) = (4 * m + 2) * U * (B * (2 * h)) ∧
    A * h * (4 * W) = 2 * U * (B * (2 * h)) := by
  refine ⟨?_, ?_, ?_⟩ <;> grind

/-- `r/s` is the value, `m⁺/s`, `m⁻/s` the half-gaps, in the units of `InInterval` -/
theorem bdSetup_spec (m : Nat) (e : Int) (hv : ValidFin m e) :
    ∃ r s mp mm, bdSetup m e = (r, s, mp, mm) ∧ 0 < s ∧ 0 < mp ∧
      r * 2 ^ 1076 = lowQ m e * unit4 e * s + mm * 2 ^ 1076 ∧
      (r + mp) * 2 ^ 1076 = highQ m * unit4 e * s ∧
      mp * 2 ^ 1076 = 2 * unit4 e * s := by
  obtain ⟨hm0, _, he1, _, _⟩ := hv
  obtain ⟨A, B, hA, hB, hU, hset⟩ := bdSetup_eq m e he1
  rw [two_pow_1076, hset]
  unfold lowQ highQ
  generalize (2 : Nat) ^ 1074 = W at *
  generalize unit4 e = U at *
  by_cases hb : isBoundary m e = true
  · rw [if_pos hb, if_pos hb]
    exact ⟨_, _, _, _, rfl, by omega, by omega, setup_eqs m A B U W 2 1 (4 * m - 1) hU rfl (by omega)⟩
  · rw [if_neg hb, if_neg hb]
    have := setup_eqs m A B U W 1 2 (4 * m - 2) hU rfl (by omega)
    simp only [Nat.mul_one] at this
    exact ⟨_, _, _, _, rfl, by omega, hA, this⟩

theorem bd_bounds {r s mp U H : Nat} (hs : 0 < s) (hH : H < 2 ^ 55) (hU1 : 0 < U)
    (hU : U ≤ 2 ^ 2045) (hhi : (r + mp) * 2 ^ 1076 = H * U * s)
    (hmp : mp * 2 ^ 1076 = 2 * U * s) :
    r + mp < s * 10 ^ 309 ∧ s ≤ mp * 10 ^ 324 := by
  have h1 := two_pow_55_2045
  have h2 := two_pow_1024_le
  have h3 := two_pow_1076_le
  generalize (2 : Nat) ^ 1076 = P at *
  generalize (2 : Nat) ^ 1024 = K at *
  generalize (2 : Nat) ^ 2045 = B at *
  generalize (2 : Nat) ^ 55 = C at *
  generalize (10 : Nat) ^ 309 = T1 at *
  generalize (10 : Nat) ^ 324 = T2 at *
  constructor
  · have hlt : H * U < C * B := Nat.mul_lt_mul_of_lt_of_le hH hU (by omega)
    have hlt2 : H * U * s < C * B * s := Nat.mul_lt_mul_of_pos_right hlt hs
    rw [← hhi, h1] at hlt2
    have hlt3 : (r + mp) * P < K * s * P := by
      rw [Nat.mul_right_comm K s P]; exact hlt2
    have hlt4 : r + mp < K * s := Nat.lt_of_mul_lt_mul_right hlt3
    calc r + mp < K * s := hlt4
      _ ≤ T1 * s := Nat.mul_le_mul_right s h2
      _ = s * T1 := Nat.mul_comm _ _
  · calc s = 1 * s := (Nat.one_mul s).symm
      _ ≤ 2 * U * s := Nat.mul_le_mul_right s (by omega)
      _ = mp * P := hmp.symm
      _ ≤ mp * T2 := Nat.mul_le_mul_left mp h3

/-- `fracOfDigits ds (a - b)` is `digitsNum ds / 10^n · 10^a / 10^b`, cross-multiplied -/
theorem fracOfDigits_cross (ds : List Nat) (a b : Nat) :
    0 < (fracOfDigits ds ((a : Int) - b)).2 ∧
    (fracOfDigits ds ((a : Int) - b)).1 * (10 ^ ds.length * 10 ^ b) =
      digitsNum ds * 10 ^ a * (fracOfDigits ds ((a : Int) - b)).2 := by
  unfold fracOfDigits
  dsimp only
  split
  · obtain ⟨c, hc⟩ : ∃ c : Nat, ((a : Int) - b - ds.length).toNat = c := ⟨_, rfl⟩
    have hac : a = c + (ds.length + b) := by omega
    rw [hc, hac, Nat.pow_add, Nat.pow_add]
    exact ⟨Nat.one_pos, by rw [Nat.mul_one, Nat.mul_assoc]⟩
  · obtain ⟨c, hc⟩ : ∃ c : Nat, (-((a : Int) - b - ds.length)).toNat = c := ⟨_, rfl⟩
    have hac : ds.length + b = a + c := by omega
    rw [hc, ← Nat.pow_add, hac, Nat.pow_add]
    exact ⟨Nat.pow_pos (by decide), by rw [Nat.mul_assoc]⟩

/-- every round multiplies `m⁺` by ten -/
theorem fuel_enough (s mp a b g u f : Nat) (hmp : 0 < mp) (hgap : s ≤ mp * 10 ^ g) (ha : a ≤ u)
    (hf : g + u < f + 1) : s * 10 ^ a < mp * 10 ^ b * 10 * 10 ^ f :=
  calc s * 10 ^ a ≤ mp * 10 ^ g * 10 ^ u :=
        Nat.mul_le_mul hgap (Nat.pow_le_pow_right (by decide) ha)
    _ = mp * 10 ^ (g + u) := by rw [Nat.mul_assoc, ← Nat.pow_add]
    _ < mp * 10 ^ (f + 1) :=
        Nat.mul_lt_mul_of_pos_left (Nat.pow_lt_pow_right (by decide) hf) hmp
    _ = mp * 1 * 10 * 10 ^ f := by rw [Nat.mul_one, Nat.mul_assoc, ← Nat.pow_succ']
    _ ≤ mp * 10 ^ b * 10 * 10 ^ f :=
        Nat.mul_le_mul_right _ (Nat.mul_le_mul_right _
          (Nat.mul_le_mul_left _ (Nat.pow_pos (by decide))))

theorem bdCore_spec (ev : Bool) (r s mp mm : Nat) (hs : 0 < s) (hmp : 0 < mp)
    (hhigh : r + mp < s * 10 ^ 309) (hgap : s ≤ mp * 10 ^ 324) :
    ∃ k ds, bdCore ev r s mp mm = (k, ds) ∧ ds ≠ [] ∧ (∀ d ∈ ds, d < 10) ∧ k ≤ 309 ∧
      Within ev r s mp mm (fracOfDigits ds k).1 (fracOfDigits ds k).2 := by
  -- the fuels of `shortestDigits`: `up` has 400 and takes at most 309 steps here; `down` only brings
  -- the first digit to the front and its result is used whatever its fuel; `genDigits` has 800 and
  -- needs at most 324 + 309 (`fuel_enough`)
  obtain ⟨a, ha, hup, hrel⟩ := up_spec ev r mp 400 309 s 0 (by decide) hhigh
  obtain ⟨b, hdown, hrel'⟩ := down_spec ev (s * 10 ^ a) 400 r mp mm (0 + (a : Int)) hrel
  have hTa : 0 < 10 ^ a := Nat.pow_pos (by decide)
  have hTb : 0 < 10 ^ b := Nat.pow_pos (by decide)
  have hgood := gen_spec ev (s * 10 ^ a) (Nat.mul_pos hs hTa) 799 (r * 10 ^ b * 10)
    (mp * 10 ^ b * 10) (mm * 10 ^ b * 10) (Nat.mul_pos (Nat.mul_pos hmp hTb) (by decide))
    (by
      rw [← Nat.add_mul]
      exact hrel'.mul_right 10 (by decide))
    (fuel_enough s mp a b 324 309 799 hmp hgap ha (by decide))
  refine ⟨(a : Int) - b, _, ?_, hgood.ne, hgood.dig, by omega, ?_⟩
  · unfold bdCore
    rw [hup]
    dsimp only
    rw [hdown, Int.zero_add]
  · generalize genDigits (799 + 1) _ _ _ _ ev ev [] = ds at hgood
    obtain ⟨hden, hcross⟩ := fracOfDigits_cross ds a b
    have hw := hgood.within
    rw [Nat.mul_assoc r, Nat.mul_assoc s, Nat.mul_assoc mp, Nat.mul_assoc mm] at hw
    -- `hcross` with ten more on either side
    exact hw.rescale (Nat.mul_pos (Nat.pow_pos (by decide)) (Nat.mul_pos hTb (by decide))) hden
      (calc _ = (fracOfDigits ds (a - b)).1 * (10 ^ ds.length * 10 ^ b) * 10 := by ac_rfl
        _ = digitsNum ds * 10 ^ a * (fracOfDigits ds (a - b)).2 * 10 := by rw [hcross]
        _ = _ := by ac_rfl)

theorem Within.inInterval {m : Nat} {e : Int} {r s mp mm num den : Nat} (hs : 0 < s)
    (hlo : r * 2 ^ 1076 = lowQ m e * unit4 e * s + mm * 2 ^ 1076)
    (hhi : (r + mp) * 2 ^ 1076 = highQ m * unit4 e * s)
    (h : Within (m % 2 == 0) r s mp mm num den) : InInterval m e num den := by
  have hP : 0 < (2 : Nat) ^ 1076 := Nat.two_pow_pos 1076
  unfold InInterval
  generalize (2 : Nat) ^ 1076 = P at *
  generalize lowQ m e * unit4 e = L at *
  generalize highQ m * unit4 e = H at *
  have e1 : LeOrLt (m % 2 == 0) (L * den * s + mm * den * P) (num * P * s + mm * den * P) :=
    (h.lo.mul_right P hP).congr
      (by rw [Nat.mul_right_comm, hlo, Nat.add_mul, Nat.mul_right_comm L, Nat.mul_right_comm mm])
      (by rw [Nat.add_mul, Nat.mul_right_comm num])
  have l1 : LeOrLt (m % 2 == 0) (L * den) (num * P) := LeOrLt.of_mul_right hs (LeOrLt.add_cancel e1)
  have l2 : LeOrLt (m % 2 == 0) (num * P) (H * den) :=
    LeOrLt.of_mul_right hs ((h.hi.mul_right P hP).congr (Nat.mul_right_comm num s P)
      (by rw [← Nat.add_mul, Nat.mul_right_comm, hhi, Nat.mul_right_comm H]))
  by_cases hm : m % 2 = 0
  · rw [if_pos hm]
    simp only [hm, LeOrLt, beq_self_eq_true, if_true] at l1 l2
    exact ⟨l1, l2⟩
  · rw [if_neg hm]
    have hb : (m % 2 == 0) = false := by simpa using hm
    simp only [hb, LeOrLt] at l1 l2
    exact ⟨by simpa using l1, by simpa using l2⟩

/-- the printed digits `0.d₁…dₙ × 10^k` lie in the double's rounding interval -/
theorem shortestDigits_spec (m : Nat) (e : Int) (hv : ValidFin m e) :
    (shortestDigits m e).2 ≠ [] ∧
    (∀ d ∈ (shortestDigits m e).2, d < 10) ∧
    (shortestDigits m e).1 ≤ 330 ∧
    InInterval m e (fracOfDigits (shortestDigits m e).2 (shortestDigits m e).1).1
                   (fracOfDigits (shortestDigits m e).2 (shortestDigits m e).1).2 := by
  obtain ⟨r, s, mp, mm, hset, hs, hmp, hlo, hhi, hgap⟩ := bdSetup_spec m e hv
  obtain ⟨hm0, hm53, he1, he2, _⟩ := hv
  have hH : highQ m < 2 ^ 55 := by unfold highQ; omega
  have hU1 : 0 < unit4 e := Nat.two_pow_pos _
  have hU : unit4 e ≤ 2 ^ 2045 := by
    unfold unit4; apply Nat.pow_le_pow_right (by decide); omega
  obtain ⟨hb1, hb2⟩ := bd_bounds hs hH hU1 hU hhi hgap
  obtain ⟨k, ds, hcore, h1, h2, h3, hw⟩ := bdCore_spec (m % 2 == 0) r s mp mm hs hmp hb1 hb2
  rw [shortestDigits_eq hset, hcore]
  -- `h3 : k ≤ 309`; 330 is the threshold `F64.parse` tests the decimal exponent against
  exact ⟨h1, h2, by omega, hw.inInterval hs hlo hhi⟩

end Cel.F64
