import CelModel.Lemmas.ParserClosed
import CelModel.Lemmas.ParserSteps
/-!
# Token-level invariant of the parser

Whatever any of the parser functions consumes is a *balanced segment* of tokens that starts with a
token an expression may start with and ends with one it may end with.  `closed` is the instance of
the closure principle of `Lemmas/ParserClosed.lean`; `parseExpr_good` and `parseTop_good` are what
its users call.
-/
namespace Cel
namespace ParserInv
open Lexer Parser

def opener : Tok → Option String
  | .sym "(" => some ")" | .sym "[" => some "]" | .sym "{" => some "}" | _ => none
def closer : Tok → Option String
  | .sym ")" => some ")" | .sym "]" => some "]" | .sym "}" => some "}" | _ => none

def wellBracketed : List String → Toks → Bool
  | stack, [] => stack.isEmpty
  | stack, t :: ts =>
    match opener t with
    | some c => wellBracketed (c :: stack) ts
    | none =>
      match closer t with
      | some c => (match stack with
        | c' :: rest => c == c' && wellBracketed rest ts
        | [] => false)
      | none => wellBracketed stack ts

def canEnd : Tok → Bool
  | .sym s => s == ")" || s == "]" || s == "}" || s == "true" || s == "false" || s == "null"
  | _ => true

def canStart : Tok → Bool
  | .sym s => s == "(" || s == "[" || s == "{" || s == "." || s == "-" || s == "!" || s == "true"
      || s == "false" || s == "null"
  | .escIdent _ => false
  | _ => true

def plain (t : Tok) : Prop := opener t = none ∧ closer t = none

instance (t : Tok) : Decidable (plain t) := inferInstanceAs (Decidable (_ ∧ _))

theorem plain_ident {f : Str} : plain (.ident f) := ⟨rfl, rfl⟩
theorem plain_escIdent {f : Str} : plain (.escIdent f) := ⟨rfl, rfl⟩

/-- a balanced segment: brackets opened inside are closed inside, nothing outside is touched -/
def Seg (c : Toks) : Prop :=
  ∀ stack tail, wellBracketed stack (c ++ tail) = wellBracketed stack tail

/-! `SegR ts rest`: `ts` is a balanced segment followed by `rest`; `EndsR`: one that ends in a `canEnd`
token; `TailR`: that or nothing (what a loop consumes); `GoodR`: `EndsR` from a `canStart` token on
(what an expression consumes). -/
def SegR (ts rest : Toks) : Prop := ∃ c, ts = c ++ rest ∧ Seg c
def EndsR (ts rest : Toks) : Prop :=
  ∃ c, ts = c ++ rest ∧ Seg c ∧ ∃ l, c.getLast? = some l ∧ canEnd l = true
def StartsR (ts : Toks) : Prop := ∃ f, ts.head? = some f ∧ canStart f = true
def TailR (ts rest : Toks) : Prop := ts = rest ∨ EndsR ts rest
def GoodR (ts rest : Toks) : Prop := EndsR ts rest ∧ StartsR ts

theorem wb_plain {t : Tok} (h : plain t) (st : List String) (ts : Toks) :
    wellBracketed st (t :: ts) = wellBracketed st ts := by
  simp [wellBracketed, h.1, h.2]

theorem SegR.refl {ts : Toks} : SegR ts ts := ⟨[], rfl, fun _ _ => rfl⟩

theorem SegR.trans {a b c : Toks} (h1 : SegR a b) (h2 : SegR b c) : SegR a c := by
  obtain ⟨c1, rfl, s1⟩ := h1
  obtain ⟨c2, rfl, s2⟩ := h2
  refine ⟨c1 ++ c2, by simp, fun st tl => ?_⟩
  rw [List.append_assoc, s1, s2]

theorem SegR.tok {t : Tok} {r : Toks} (h : plain t) : SegR (t :: r) r :=
  ⟨[t], rfl, fun st tl => wb_plain h st tl⟩

theorem EndsR.toSeg {a b : Toks} (h : EndsR a b) : SegR a b := by
  obtain ⟨c, e, s, _⟩ := h; exact ⟨c, e, s⟩

theorem EndsR.seg_trans {a b c : Toks} (h1 : SegR a b) (h2 : EndsR b c) : EndsR a c := by
  obtain ⟨c1, rfl, s1⟩ := h1
  obtain ⟨c2, rfl, s2, l, hl, hc⟩ := h2
  refine ⟨c1 ++ c2, by simp, fun st tl => ?_, l, ?_, hc⟩
  · rw [List.append_assoc, s1, s2]
  · rw [List.getLast?_append, hl]; rfl

theorem EndsR.trans_tail {a b c : Toks} (h1 : EndsR a b) (h2 : TailR b c) : EndsR a c := by
  cases h2 with
  | inl h => subst h; exact h1
  | inr h => exact EndsR.seg_trans h1.toSeg h

theorem EndsR.tok {t : Tok} {r : Toks} (h : plain t) (he : canEnd t = true) : EndsR (t :: r) r :=
  ⟨[t], rfl, fun st tl => wb_plain h st tl, t, rfl, he⟩

theorem SegR.skip {t : Tok} {r r' : Toks} (h : SegR r r') (ht : plain t) : SegR (t :: r) r' :=
  (SegR.tok ht).trans h
theorem EndsR.skip {t : Tok} {r r' : Toks} (h : EndsR r r') (ht : plain t) : EndsR (t :: r) r' :=
  EndsR.seg_trans (SegR.tok ht) h
theorem SegR.and_then {t : Tok} {a b : Toks} (h : SegR a (t :: b)) (ht : plain t) : SegR a b :=
  h.trans (SegR.tok ht)

theorem EndsR.wrap {o c : String} (ho : opener (.sym o) = some c) (hno : opener (.sym c) = none)
    (hc : closer (.sym c) = some c) (he : canEnd (.sym c) = true) {r rest : Toks}
    (h : SegR r (.sym c :: rest)) : EndsR (.sym o :: r) rest := by
  obtain ⟨cs, rfl, s⟩ := h
  refine ⟨.sym o :: (cs ++ [.sym c]), by simp, fun st tl => ?_, .sym c,
    by rw [← List.cons_append, List.getLast?_append]; rfl, he⟩
  have := s (c :: st) (.sym c :: tl)
  simp [wellBracketed, ho, hno, hc] at this ⊢
  rw [this]

theorem EndsR.paren {r rest : Toks} (h : SegR r (.sym ")" :: rest)) : EndsR (.sym "(" :: r) rest :=
  EndsR.wrap rfl rfl rfl rfl h
theorem EndsR.brack {r rest : Toks} (h : SegR r (.sym "]" :: rest)) : EndsR (.sym "[" :: r) rest :=
  EndsR.wrap rfl rfl rfl rfl h
theorem EndsR.brace {r rest : Toks} (h : SegR r (.sym "}" :: rest)) : EndsR (.sym "{" :: r) rest :=
  EndsR.wrap rfl rfl rfl rfl h

theorem TailR.refl {ts : Toks} : TailR ts ts := Or.inl rfl
theorem TailR.step {a b c : Toks} (h1 : EndsR a b) (h2 : TailR b c) : TailR a c :=
  Or.inr (h1.trans_tail h2)

theorem GoodR.trans_tail {a b c : Toks} (h1 : GoodR a b) (h2 : TailR b c) : GoodR a c :=
  ⟨h1.1.trans_tail h2, h1.2⟩

theorem segR_drop_run (s : String) (hp : plain (.sym s)) (ts : Toks) : SegR ts (ts.drop (runLen s ts)) := by
  fun_induction runLen s ts with
  | case1 t r h ih =>
    cases eq_of_beq h
    rw [Nat.add_comm, List.drop_succ_cons]
    exact ih.skip hp
  | case2 => exact SegR.refl
  | case3 => exact SegR.refl

theorem starts_of_run (s : String) (hs : canStart (.sym s) = true) (ts : Toks) :
    runLen s ts > 0 → StartsR ts := by
  fun_cases runLen s ts with
  | case1 t r h =>
    cases eq_of_beq h
    exact fun _ => ⟨_, rfl, hs⟩
  | case2 => exact nofun
  | case3 => exact nofun

theorem messageHead_inv {fuel : Nat} {ts : Toks} : ∀ {names : List Str} {r : Toks},
    messageHead fuel ts = some (names, r) →
      SegR ts (.sym "{" :: r) ∧ ∃ n, ts.head? = some (.ident n) := by
  fun_induction messageHead fuel ts with
  | case1 => exact nofun
  | case2 fuel n r =>
    intro _ _ h
    cases h
    exact ⟨SegR.tok plain_ident, _, rfl⟩
  | case3 fuel n r ns r' h1 ih =>
    intro _ _ h
    cases h
    exact ⟨((ih h1).1.skip (by decide)).skip plain_ident, _, rfl⟩
  | case4 => exact nofun
  | case5 => exact nofun

open Cel.Lemmas.ParserClosed Cel.Lemmas.ParserSteps in
theorem plain_binOp {s op : String} (h : IsBinOp s op) : plain (.sym s) := by
  rcases h with h | h | h
  · rcases relOp_cases h with rfl | rfl | rfl | rfl | rfl | rfl | rfl <;> decide
  · rcases addOp_cases h with rfl | rfl <;> decide
  · rcases mulOp_cases h with rfl | rfl | rfl <;> decide

theorem name_seg {tk : Tok} {f : Str} (h : tk = .ident f ∨ tk = .escIdent f) (r : Toks) :
    SegR (tk :: .sym ":" :: r) r := by
  rcases h with rfl | rfl
  · exact (SegR.tok (by decide)).skip plain_ident
  · exact (SegR.tok (by decide)).skip plain_escIdent

open Cel.Lemmas.ParserClosed in
theorem good_dotted {dot : Bool} {ts ts' rest : Toks} (hd : Dotted dot ts ts') (he : EndsR ts' rest)
    (hi : ∃ n, ts'.head? = some (.ident n)) : GoodR ts rest := by
  rcases hd with ⟨_, rfl⟩ | ⟨_, rfl⟩
  · exact ⟨he.skip (by decide), _, rfl, by decide⟩
  · obtain ⟨n, hn⟩ := hi
    exact ⟨he, _, hn, rfl⟩

open Cel.Lemmas.ParserClosed in
theorem closed : Closed (fun ts _ r => GoodR ts r) (fun ts _ _ r => TailR ts r) (fun ts _ _ r => TailR ts r)
    (fun c ts _ r => SegR ts (.sym c :: r)) (fun ts _ r => SegR ts (.sym "}" :: r))
    (fun ts _ _ r => SegR ts (.sym "}" :: r)) where
  cond := fun g1 g2 g3 => ⟨EndsR.seg_trans (g1.1.toSeg.and_then (by decide))
    (EndsR.seg_trans (g2.1.toSeg.and_then (by decide)) g3.1), g1.2⟩
  logic := fun _ g t => g.trans_tail t
  logicMore := fun htok g t => by
    rcases htok with rfl | rfl
    · exact TailR.step (g.1.skip (by decide)) t
    · exact TailR.step (g.1.skip (by decide)) t
  logicStop := TailR.refl
  thread := fun g t => g.trans_tail t
  binMore := fun hop g t => TailR.step (g.1.skip (plain_binOp hop)) t
  stop := TailR.refl
  prefixOp := fun hs hrun g => by
    rcases hs with ⟨rfl, _⟩ | ⟨rfl, _⟩
    · exact ⟨EndsR.seg_trans (segR_drop_run "!" (by decide) _) g.1, starts_of_run "!" (by decide) _ hrun⟩
    · exact ⟨EndsR.seg_trans (segR_drop_run "-" (by decide) _) g.1, starts_of_run "-" (by decide) _ hrun⟩
  sufCall := fun a _ t => TailR.step (((EndsR.paren a).skip plain_ident).skip (by decide)) t
  sufSel := fun htk t => by
    rcases htk with rfl | rfl
    · exact TailR.step ((EndsR.tok plain_ident rfl).skip (by decide)) t
    · exact TailR.step ((EndsR.tok plain_escIdent rfl).skip (by decide)) t
  sufIdx := fun g t => TailR.step (EndsR.brack g.1.toSeg) t
  seqNil := fun _ => SegR.refl
  seqLast := fun _ g => g.1.toSeg
  seqMore := fun _ g s => (g.1.toSeg.and_then (by decide)).trans s
  entNil := SegR.refl
  entLast := fun gk gv => (gk.1.toSeg.and_then (by decide)).trans gv.1.toSeg
  entMore := fun gk gv s =>
    ((gk.1.toSeg.and_then (by decide)).trans (gv.1.toSeg.and_then (by decide))).trans s
  fldNil := SegR.refl
  fldLast := fun htk gv => (name_seg htk _).trans gv.1.toSeg
  fldMore := fun htk gv s => ((name_seg htk _).trans (gv.1.toSeg.and_then (by decide))).trans s
  negInt := fun _ => ⟨(EndsR.tok ⟨rfl, rfl⟩ rfl).skip (by decide), _, rfl, by decide⟩
  negFloat := fun _ => ⟨(EndsR.tok ⟨rfl, rfl⟩ rfl).skip (by decide), _, rfl, by decide⟩
  int := fun _ => ⟨EndsR.tok ⟨rfl, rfl⟩ rfl, _, rfl, rfl⟩
  float := fun _ => ⟨EndsR.tok ⟨rfl, rfl⟩ rfl, _, rfl, rfl⟩
  uint := fun _ => ⟨EndsR.tok ⟨rfl, rfl⟩ rfl, _, rfl, rfl⟩
  str := fun _ => ⟨EndsR.tok ⟨rfl, rfl⟩ rfl, _, rfl, rfl⟩
  bytes := fun _ => ⟨EndsR.tok ⟨rfl, rfl⟩ rfl, _, rfl, rfl⟩
  kwTrue := ⟨EndsR.tok (by decide) (by decide), _, rfl, by decide⟩
  kwFalse := ⟨EndsR.tok (by decide) (by decide), _, rfl, by decide⟩
  kwNull := ⟨EndsR.tok (by decide) (by decide), _, rfl, by decide⟩
  paren := fun g => ⟨EndsR.paren g.1.toSeg, _, rfl, by decide⟩
  listEmpty := ⟨EndsR.brack (SegR.tok (by decide)), _, rfl, by decide⟩
  list := fun s => ⟨EndsR.brack s, _, rfl, by decide⟩
  mapEmpty := ⟨EndsR.brace (SegR.tok (by decide)), _, rfl, by decide⟩
  map := fun s => ⟨EndsR.brace s, _, rfl, by decide⟩
  msgEmpty := fun hd hm => have g := messageHead_inv hm
    good_dotted hd (EndsR.seg_trans g.1 (EndsR.brace (SegR.tok (by decide)))) g.2
  msg := fun hd hm f => have g := messageHead_inv hm
    good_dotted hd (EndsR.seg_trans g.1 (EndsR.brace f)) g.2
  call := fun hd a _ => good_dotted hd ((EndsR.paren a).skip plain_ident) ⟨_, rfl⟩
  ident := fun hd => good_dotted hd (EndsR.tok plain_ident rfl) ⟨_, rfl⟩

def PE {α : Type} (p : Toks → Option (α × Toks)) : Prop :=
  ∀ ts e rest, p ts = some (e, rest) → GoodR ts rest
def PL {α β : Type} (p : Toks → β → Option (α × Toks)) : Prop :=
  ∀ ts acc e rest, p ts acc = some (e, rest) → TailR ts rest
def PC {α : Type} (cl : String) (p : Toks → Option (α × Toks)) : Prop :=
  ∀ ts e rest, p ts = some (e, rest) → SegR ts (.sym cl :: rest)
def PF (p : Toks → Option (List Str × List Expr × Toks)) : Prop :=
  ∀ ts fs vs rest, p ts = some (fs, vs, rest) → SegR ts (.sym "}" :: rest)

/-- `closed.holds fuel` once more, function by function, under `PE` … `PF`, whose full names are used
by statements elsewhere.  Nothing below rests on it: `parseExpr_good` takes `(closed.holds fuel).expr`. -/
structure All (fuel : Nat) : Prop where
  expr : PE (parseExpr fuel)
  or : PE (parseOr fuel)
  orRest : PL (parseOrRest fuel)
  and : PE (parseAnd fuel)
  andRest : PL (parseAndRest fuel)
  rel : PE (parseRel fuel)
  relRest : PL (parseRelRest fuel)
  add : PE (parseAdd fuel)
  addRest : PL (parseAddRest fuel)
  mul : PE (parseMul fuel)
  mulRest : PL (parseMulRest fuel)
  unary : PE (parseUnary fuel)
  member : PE (parseMember fuel)
  suffix : PL (parseSuffix fuel)
  args : PC ")" (parseArgs fuel)
  elems : PC "]" (parseListElems fuel)
  entries : PC "}" (parseMapEntries fuel)
  fields : PF (parseFields fuel)
  primary : PE (parsePrimary fuel)

theorem all (fuel : Nat) : All fuel :=
  have H := closed.holds fuel
  ⟨H.expr, H.or, H.orRest, H.and, H.andRest, H.rel, H.relRest, H.add, H.addRest, H.mul, H.mulRest,
    H.unary, H.member, H.suffix, H.args, H.elems, H.entries, H.fields, H.primary⟩

theorem parseExpr_good {fuel : Nat} {ts rest : Toks} {e : Expr}
    (h : parseExpr fuel ts = some (e, rest)) : GoodR ts rest := (closed.holds fuel).expr h

theorem parseTop_good {ts : Toks} {e : Expr} (h : parseTop ts = some e) : GoodR ts [] :=
  parseExpr_good (parseTop_some h)

theorem good_nil_balanced {ts : Toks} (h : GoodR ts []) : wellBracketed [] ts = true := by
  obtain ⟨⟨c, rfl, s, _⟩, _⟩ := h
  rw [s]; rfl

theorem good_nil_last {ts : Toks} (h : GoodR ts []) : ∃ l, ts.getLast? = some l ∧ canEnd l = true := by
  obtain ⟨⟨c, rfl, _, l, hl, hc⟩, _⟩ := h
  exact ⟨l, by simpa using hl, hc⟩

end ParserInv
end Cel
