import CelModel.StrLit
/-!
# `parseRadix` reads back positional renderings

`digits b dig w n`: `w` digits, any digit alphabet `dig` that `parseRadix b` reads (`Reads`), read
back by `parseRadix_digits`; `Nat.toDigits b n`: as many digits as needed, in the alphabet
`Nat.digitChar`, read back by `parseRadix_toDigits`.
-/
namespace Cel.Lemmas.Radix
open Cel.StrLit

/-- the fold of `parseRadix` -/
def radixStep (radix : Nat) (acc : Option Nat) (c : Char) : Option Nat :=
  match acc with
  | none => none
  | some n =>
    let ok := if radix == 16 then Lexer.isHex c else ('0' ≤ c && c ≤ '7')
    if ok then some (n * radix + hexVal c) else none

theorem parseRadix_eq {radix : Nat} {s : Str} (h : s ≠ []) :
    parseRadix radix s = s.foldl (radixStep radix) (some 0) := by
  unfold parseRadix
  cases s with
  | nil => exact absurd rfl h
  | cons c r => rfl

/-- `w` digits of `n` in base `b`, most significant first, in the alphabet `dig` (instances: `hexN`,
`hexNUpper`, `oct3` of `Props/C12.lean`) -/
def digits (b : Nat) (dig : Nat → Char) : (w : Nat) → Nat → Str
  | 0, _ => []
  | w + 1, n => digits b dig w (n / b) ++ [dig (n % b)]

theorem digits_length {b : Nat} {dig : Nat → Char} {w n : Nat} : (digits b dig w n).length = w := by
  induction w generalizing n with
  | zero => rfl
  | succ w ih => simp [digits, ih]

/-- `parseRadix b` takes `dig d` for the digit of value `d`, for every `d < b` -/
def Reads (b : Nat) (dig : Nat → Char) : Prop :=
  ∀ ⦃a d⦄, d < b → radixStep b (some a) (dig d) = some (a * b + d)

/-- from the table of the alphabet: every digit passes the test of its radix and has its value -/
theorem Reads.of_table {b : Nat} {dig : Nat → Char}
    (h : ∀ d, d < b →
      (if b == 16 then Lexer.isHex (dig d) else ('0' ≤ dig d && dig d ≤ '7')) = true ∧
        hexVal (dig d) = d) : Reads b dig := by
  intro a d hd
  simp only [radixStep, h d hd, if_true]

theorem foldl_digits {b : Nat} {dig : Nat → Char} (hr : Reads b dig) (w : Nat) : ∀ n a, n < b ^ w →
    (digits b dig w n).foldl (radixStep b) (some a) = some (a * b ^ w + n) := by
  induction w with
  | zero =>
    intro n a h
    rw [Nat.pow_zero, Nat.lt_one_iff] at h
    simp [digits, h]
  | succ w ih =>
    intro n a h
    have hb : 0 < b := Nat.pos_of_ne_zero (by rintro rfl; simp at h)
    rw [Nat.pow_succ] at h
    rw [digits, List.foldl_append, ih _ a (Nat.div_lt_of_lt_mul (Nat.mul_comm _ _ ▸ h)),
      List.foldl_cons, List.foldl_nil, hr (Nat.mod_lt _ hb),
      Nat.add_mul, Nat.mul_assoc, ← Nat.pow_succ, Nat.add_assoc, Nat.div_add_mod']

theorem parseRadix_digits {b : Nat} {dig : Nat → Char} (hr : Reads b dig) {w n : Nat} (hw : 0 < w)
    (hn : n < b ^ w) : parseRadix b (digits b dig w n) = some n := by
  rw [parseRadix_eq (List.ne_nil_of_length_pos (by rwa [digits_length])),
    foldl_digits hr w n 0 hn, Nat.zero_mul, Nat.zero_add]

theorem reads_digitChar : Reads 16 Nat.digitChar := .of_table (by decide)

theorem foldl_toDigits {b : Nat} (hb : 1 < b) (hr : Reads b Nat.digitChar) (n : Nat) :
    (Nat.toDigits b n).foldl (radixStep b) (some 0) = some n := by
  induction n using Nat.strongRecOn with
  | _ n ih =>
    rw [Nat.toDigits_eq_if hb]
    split
    · next hlt => rw [List.foldl_cons, List.foldl_nil, hr hlt, Nat.zero_mul, Nat.zero_add]
    · next hge =>
      rw [List.foldl_append, ih (n / b) (Nat.div_lt_self (by omega) hb), List.foldl_cons,
        List.foldl_nil, hr (Nat.mod_lt n (by omega)), Nat.div_add_mod']

theorem parseRadix_toDigits {b : Nat} (hb : 1 < b) (hr : Reads b Nat.digitChar) (n : Nat) :
    parseRadix b (Nat.toDigits b n) = some n := by
  rw [parseRadix_eq Nat.toDigits_ne_nil, foldl_toDigits hb hr]

end Cel.Lemmas.Radix
