import CelModel.Num
/-!
# The 64-bit range predicates as inequalities between literals (the form `omega` reads)
-/
namespace Cel

theorem inI64_iff (i : Int) :
    inI64 i = true ↔ (-9223372036854775808 ≤ i ∧ i ≤ 9223372036854775807) := by
  unfold inI64 i64Min i64Max; simp
theorem inU64_iff (i : Int) : inU64 i = true ↔ (0 ≤ i ∧ i ≤ 18446744073709551615) := by
  unfold inU64 u64Max; simp

/-! on (negated) naturals one of the two bounds is void -/

theorem inI64_natCast (n : Nat) : inI64 (n : Int) = decide ((n : Int) ≤ i64Max) := by
  rw [inI64, decide_eq_true (by unfold i64Min; omega), Bool.true_and]

theorem inI64_neg_natCast (n : Nat) : inI64 (-(n : Int)) = decide ((n : Int) ≤ i64Max + 1) := by
  rw [inI64, decide_eq_true (show -(n : Int) ≤ i64Max by unfold i64Max; omega), Bool.and_true]
  exact decide_eq_decide.2 (by unfold i64Min i64Max; omega)

theorem inU64_natCast (n : Nat) : inU64 (n : Int) = decide ((n : Int) ≤ u64Max) := by
  rw [inU64, decide_eq_true (Int.natCast_nonneg n), Bool.true_and]

end Cel
