import CelModel.Lemmas.F64RoundCore
/-!
# Correct rounding: `roundRatPos` returns the double whose rounding interval holds the fraction

`roundRatPos_of_interval` is `round_main` at the significand and exponent of the owner, except for a
fraction in the half-width lower part of the interval of a binade boundary `2^52 · 2^e`: that one
rounds to `2^53` at exponent `e - 1`, which `finish` renormalises.  `ofRat_of_round` adds the sign.
-/
namespace Cel.F64
open Cel.Lemmas.F64RoundCore

theorem InInterval_num_pos {m : Nat} {e : Int} {num den : Nat} (hm : 0 < m) (hden : 0 < den)
    (h : InInterval m e num den) : num ≠ 0 := by
  intro h0
  subst h0
  have hl : 0 < lowQ m e := by
    have := lowQ_ge m e
    omega
  have hu : 0 < unit4 e := Nat.two_pow_pos _
  have hp : 0 < lowQ m e * unit4 e * den := Nat.mul_pos (Nat.mul_pos hl hu) hden
  unfold InInterval at h
  generalize 2 ^ 1076 = P at h
  rw [Nat.zero_mul] at h
  split at h
  · exact Nat.not_le_of_gt hp h.1
  · exact Nat.not_lt_zero _ h.1

/-- correct rounding: the owner of a fraction is what `roundRatPos` returns -/
theorem roundRatPos_of_interval (m : Nat) (e : Int) (hv : ValidFin m e) (num den : Nat)
    (hden : 0 < den) (hin : InInterval m e num den) :
    roundRatPos num den = some (encodePos m e) := by
  obtain ⟨hm0, hm53, he1, he2, hsub⟩ := hv
  obtain ⟨hL, hU, hO⟩ := interval_facts he1 hin
  have hnum : 0 < num := Nat.pos_of_ne_zero (InInterval_num_pos hm0 hden hin)
  unfold highQ at hU hO
  by_cases hB : isBoundary m e = true ∧ ¬ PL num den (4 * m) (e - 2)
  · -- the fraction is below `2^52·2^e`, in the binade underneath
    obtain ⟨hb, hnl⟩ := hB
    obtain ⟨hm, heb⟩ := (isBoundary_iff m e).1 hb
    have hlq : lowQ m e = 2 * 2 ^ 53 - 1 := by
      rw [lowQ_boundary hb]
      omega
    have h4m : 4 * m = 2 ^ 54 := by omega
    have hz : e - 1 - 1 = e - 2 := by omega
    rw [hlq] at hL
    rw [h4m] at hnl
    have hr := round_main hnum hden (2 ^ 53) (e - 1) (hK := by omega)
      (hlo := by rw [hz]; exact hL)
      (hhi := by rw [hz]; exact PU_mono (PU_of_not_PL hnl) (by omega))
      (hodd := fun h => by omega)
      (hle := by
        -- `2^53 ≤ lowQ` and the fraction is below `2^54`, both in units `2^(e-2)`: its top bit `t` is
        -- `e + 51`, and the algorithm's `if` picks `t - 52 = e - 1`
        intro t ht1 ht2
        have a1 := top_lt_of_not_PL 54 hnl ht1
        have a2 := top_ge 53 hL (by omega) ht2
        split <;> omega)
    rw [hr, hm]
    exact finish_renorm he2
  · -- the generic case: lsb exponent `e`, significand `m`
    have hL2 : PL num den (4 * m - 2) (e - 2) := by
      by_cases hb : isBoundary m e = true
      · have : PL num den (4 * m) (e - 2) := Decidable.not_not.1 (fun h => hB ⟨hb, h⟩)
        exact PL_mono this (by omega)
      · exact lowQ_not_boundary hb ▸ hL
    have e1 : 4 * m - 2 = (2 * m - 1) * 2 ^ 1 := by omega
    have e2' : 4 * m + 2 = (2 * m + 1) * 2 ^ 1 := by omega
    have hz : e - 2 + ((1 : Nat) : Int) = e - 1 := by omega
    have hr := round_main hnum hden m e (hK := by omega)
      (hlo := by rw [e1, PL_shift, hz] at hL2; exact hL2)
      (hhi := by rw [e2', PU_shift, hz] at hU; exact hU)
      (hodd := by
        intro hp
        obtain ⟨o1, o2⟩ := hO hp
        rw [lowQ_of_ne m e (by omega), e1, PU_shift, hz] at o1
        rw [e2', PL_shift, hz] at o2
        exact ⟨o1, o2⟩)
      (hle := by
        -- in units `2^(e-2)` the fraction is at most `4m + 2 < 2^55`, and for a normal `m ≥ 2^52` at
        -- least `4m - 2 ≥ 2^54` (`4m` when `m = 2^52`): its top bit `t` is `e + 52`, and the
        -- algorithm's `if` picks `t - 52 = e`; for a subnormal `t - 52 < e = -1074`, the other branch
        intro t ht1 ht2
        have a1 := top_lt 55 hden hU (by omega) ht1
        by_cases hee : e = -1074
        · split <;> omega
        · have a2 : e - 2 + ((54 : Nat) : Int) ≤ t := by
            by_cases hm' : m = 2 ^ 52
            · have hb : isBoundary m e = true := (isBoundary_iff m e).2 ⟨hm', by omega⟩
              have : PL num den (4 * m) (e - 2) := Decidable.not_not.1 (fun h => hB ⟨hb, h⟩)
              exact top_ge 54 this (by omega) ht2
            · exact top_ge 54 hL2 (by omega) ht2
          split <;> omega)
    rw [hr]
    exact finish_valid hm53 (by omega)

theorem ofRat_of_round (neg : Bool) {num den bits : Nat} (h : roundRatPos num den = some bits) :
    ofRat neg num den = UInt64.ofNat (bits + (if neg then 2 ^ 63 else 0)) := by
  unfold ofRat
  rw [h]

end Cel.F64
