import CelModel.Lemmas.EvalEqs
import CelModel.Lemmas.Plain
/-!
# One traversal of the evaluator

`eval` touches the state only through `M.tick` and `M.logCall`; everything else is `pure`,
`M.throw` and `>>=`, and `M.panic` at an `unspecified` node.  A family of computations that contains
these and is closed under `>>=` (`Closed`) therefore contains `runAll`, `extract`, `applyFn`,
`callNode` and `loopG` of its members, and `eval` (`Closed.eval`); the panic is no member in general
(`Sat` excludes it) and enters through `Guard.unspecified`.  The continuation of `>>=` is only asked
about values the first computation can return (`Ret`); facts about values — the shape of extracted
parameters, the scope a loop returns — are proved apart (`extract_ret`, `loopG_ret`) and enter
there.
-/
namespace Cel

theorem fetch_ret {thunks : List (EvalM Value)} {e : ErrC} {conv : Value → Outcome Value}
    {idx : Nat} {p : Value × Nat} (h : Ret (fetch thunks e conv idx) p) :
    ∃ a, conv a = .ok p.1 := by
  unfold fetch at h
  split at h
  · exact h.of_throw.elim
  · obtain ⟨a, -, h⟩ := h.of_bind
    obtain ⟨v, hv, h⟩ := h.of_bind
    cases h.of_pure
    exact ⟨a, hv.of_lift⟩

theorem recv_ret {conv : Value → Outcome Value} {tv : Value} {idx : Nat} {p : Value × Nat}
    (h : Ret (recv conv tv idx) p) : conv tv = .ok p.1 := by
  obtain ⟨v, hv, h⟩ := h.of_bind
  cases h.of_pure
  exact hv.of_lift

theorem fromThis_ret {this : Option Value} {thunks : List (EvalM Value)}
    {conv : Value → Outcome Value} {idx : Nat} {p : Value × Nat}
    (h : Ret (fromThis this thunks conv idx) p) : ∃ a, conv a = .ok p.1 := by
  unfold fromThis at h
  split at h
  · exact ⟨_, recv_ret h⟩
  · exact fetch_ret h

open Props.C02 in
theorem extractOne_ret {this : Option Value} {thunks : List (EvalM Value)} {argEs : List Expr}
    {ex : Extractor} {idx : Nat} {p : Value × Nat}
    (h : Ret (extractOne this thunks argEs ex idx) p) : ExtOk ex p.1 := by
  cases ex with
  | this t =>
    obtain ⟨a, ha⟩ := fromThis_ret h
    exact fromValue_sound t ha
  | thisOpt t =>
    obtain ⟨a, ha⟩ := fromThis_ret h
    exact fromValueOpt_sound t ha
  | pos t =>
    obtain ⟨a, ha⟩ := fetch_ret h
    exact fromValue_sound t ha
  | posOpt t =>
    obtain ⟨a, ha⟩ := fetch_ret h
    exact fromValueOpt_sound t ha
  | allArgs =>
    obtain ⟨vs, -, h⟩ := h.of_bind
    cases h.of_pure
    exact ⟨vs, rfl⟩
  | ident =>
    rw [extractOne] at h
    split at h
    · exact h.of_throw.elim
    · cases h.of_pure
      exact ⟨_, rfl⟩
    · exact h.of_throw.elim
  | expr =>
    rw [extractOne] at h
    split at h
    · exact h.of_throw.elim
    · cases h.of_pure
      exact ⟨_, rfl⟩

theorem extract_ret {this : Option Value} {thunks : List (EvalM Value)} {argEs : List Expr}
    {sig : List Extractor} {idx : Nat} {ps : List Value}
    (h : Ret (extract this thunks argEs sig idx) ps) : Props.C02.MatchesSig sig ps := by
  induction sig generalizing idx ps with
  | nil =>
    rw [extract_nil] at h
    cases h.of_pure
    trivial
  | cons ex rest ih =>
    rw [extract_cons] at h
    obtain ⟨p, hp, h⟩ := h.of_bind
    obtain ⟨vs, hvs, h⟩ := h.of_bind
    cases h.of_pure
    exact ⟨extractOne_ret hp, ih hvs⟩

theorem loopG_ret {iv av : String} {evCond evStep : Scope → EvalM Value} {D : Scope → Prop}
    (hD : ∀ ⦃sc n v⦄, D sc → D (Ctx.scopeInsert sc n v)) {items : List Value} {sc sc' : Scope}
    (hsc : D sc) (h : Ret (loopG iv av evCond evStep items sc) sc') : D sc' := by
  induction items generalizing sc with
  | nil =>
    rw [loopG_nil] at h
    cases h.of_pure
    exact hsc
  | cons item rest ih =>
    rw [loopG_cons] at h
    obtain ⟨c, -, h⟩ := h.of_bind
    split at h
    · cases h.of_pure
      exact hsc
    · obtain ⟨acc, -, h⟩ := h.of_bind
      exact ih (hD (hD hsc)) h

/-! ### closed families and their rules, in the order of the model's functions -/

/-- what the rules for operators and built-ins ask of `T`: their outcomes are plain
(`Lemmas/Plain.lean`), any error but `undeclared` -/
def Good (T : ErrC → Prop) : Prop := ∀ e, e.isUndecl = false → T e

/-- `T`: the errors the family tolerates.  The index is a credit for host-call log entries: the
tick at the head of an `eval` clause earns one, `M.logCall` spends one, so that "the log grows no
faster than the step counter" (`LogB`) is such a family — with `M.logCall` a plain member it could
not be, since `logCall >>= logCall` would be one too.  Families that do not count ignore the index
(`Closed.const`). -/
structure Closed (P : Nat → ∀ {α : Type}, EvalM α → Prop) (T : ErrC → Prop) : Prop where
  pure : ∀ {α : Type} {k : Nat} (a : α), P k (Pure.pure a : EvalM α)
  throw : ∀ {α : Type} {k : Nat} {e : ErrC}, T e → P k (M.throw e : EvalM α)
  up : ∀ {α : Type} {k : Nat} {m : EvalM α}, P k m → P (k + 1) m
  bind : ∀ {α γ : Type} {k : Nat} {m : EvalM α} {f : α → EvalM γ},
    P 0 m → (∀ a, Ret m a → P k (f a)) → P k (m >>= f)
  tick : ∀ {γ : Type} {k : Nat} {f : Unit → EvalM γ}, P (k + 1) (f ()) → P k (M.tick >>= f)
  logCall : ∀ {γ : Type} {k : Nat} (c : Call Value) {f : Unit → EvalM γ},
    P k (f ()) → P (k + 1) (M.logCall c >>= f)

theorem Closed.const {Q : ∀ {α : Type}, EvalM α → Prop} {T : ErrC → Prop}
    (pure : ∀ {α : Type} (a : α), Q (Pure.pure a : EvalM α))
    (throw : ∀ {α : Type} {e : ErrC}, T e → Q (M.throw e : EvalM α))
    (tick : Q (M.tick : EvalM Unit)) (logCall : ∀ c : Call Value, Q (M.logCall c : EvalM Unit))
    (bind : ∀ {α γ : Type} {m : EvalM α} {f : α → EvalM γ},
      Q m → (∀ a, Ret m a → Q (f a)) → Q (m >>= f)) :
    Closed (fun _ => Q) T where
  pure := pure
  throw := throw
  up h := h
  bind := bind
  tick h := bind tick fun _ _ => h
  logCall c _ h := bind (logCall c) fun _ _ => h

namespace Closed
variable {P : Nat → ∀ {α : Type}, EvalM α → Prop} {T : ErrC → Prop}

theorem seq (C : Closed P T) {k : Nat} {m : EvalM α} {f : α → EvalM γ} (hm : P 0 m)
    (hf : ∀ a, P k (f a)) : P k (m >>= f) :=
  C.bind hm (fun a _ => hf a)

theorem ite (_ : Closed P T) {k : Nat} {c : Prop} [Decidable c] {a b : EvalM α} (ha : P k a)
    (hb : P k b) : P k (if c then a else b) := by
  split
  · exact ha
  · exact hb

theorem lift (C : Closed P T) (hG : Good T) {k : Nat} {o : Outcome α} (h : o.plain = true) :
    P k (M.lift o : EvalM α) := by
  cases o with
  | ok a => exact C.pure a
  | err e => exact C.throw (hG e (by simpa [Outcome.plain] using h))
  | panic p => cases h

theorem runAll (C : Closed P T) {thunks : List (EvalM Value)} (hth : ∀ t ∈ thunks, P 0 t) :
    P 0 (runAll thunks) := by
  induction thunks with
  | nil => exact C.pure []
  | cons t ts ih =>
    rw [runAll_cons]
    refine C.seq (hth t (List.mem_cons_self ..)) fun v => ?_
    refine C.seq (ih fun t' h => hth t' (List.mem_cons_of_mem _ h)) fun vs => ?_
    exact C.pure _

theorem fetch (C : Closed P T) (hG : Good T) {thunks : List (EvalM Value)}
    (hth : ∀ t ∈ thunks, P 0 t) {e : ErrC} (he : e.isUndecl = false)
    {conv : Value → Outcome Value} (hconv : ∀ a, (conv a).plain = true) {idx : Nat} :
    P 0 (fetch thunks e conv idx) := by
  unfold Cel.fetch
  split
  · exact C.throw (hG e he)
  · rename_i th hth'
    refine C.seq (hth th (List.mem_of_getElem? hth')) fun a => ?_
    refine C.seq (C.lift hG (hconv a)) fun v => ?_
    exact C.pure _

theorem recv (C : Closed P T) (hG : Good T) {conv : Value → Outcome Value}
    (hconv : ∀ a, (conv a).plain = true) {tv : Value} {idx : Nat} : P 0 (recv conv tv idx) :=
  C.seq (C.lift hG (hconv tv)) fun _ => C.pure _

theorem fromThis (C : Closed P T) (hG : Good T) (this : Option Value)
    {thunks : List (EvalM Value)} (hth : ∀ t ∈ thunks, P 0 t) {conv : Value → Outcome Value}
    (hconv : ∀ a, (conv a).plain = true) {idx : Nat} : P 0 (fromThis this thunks conv idx) := by
  unfold Cel.fromThis
  split
  · exact C.recv hG hconv
  · exact C.fetch hG hth rfl hconv

theorem extractOne (C : Closed P T) (hG : Good T) (this : Option Value)
    {thunks : List (EvalM Value)} (hth : ∀ t ∈ thunks, P 0 t) (argEs : List Expr)
    (ex : Extractor) (idx : Nat) : P 0 (extractOne this thunks argEs ex idx) := by
  cases ex with
  | this t => exact C.fromThis hG this hth (Plain.fromValue t)
  | thisOpt t => exact C.fromThis hG this hth (Plain.fromValueOpt t)
  | pos t => exact C.fetch hG hth rfl (Plain.fromValue t)
  | posOpt t => exact C.fetch hG hth rfl (Plain.fromValueOpt t)
  | allArgs => exact C.seq (C.runAll hth) fun _ => C.pure _
  | ident =>
    rw [Cel.extractOne]
    split
    · exact C.throw (hG _ rfl)
    · exact C.pure _
    · exact C.throw (hG _ rfl)
  | expr =>
    rw [Cel.extractOne]
    split
    · exact C.throw (hG _ rfl)
    · exact C.pure _

theorem extract (C : Closed P T) (hG : Good T) (this : Option Value)
    {thunks : List (EvalM Value)} (hth : ∀ t ∈ thunks, P 0 t) (argEs : List Expr)
    (sig : List Extractor) (idx : Nat) : P 0 (extract this thunks argEs sig idx) := by
  induction sig generalizing idx with
  | nil => rw [extract_nil]; exact C.pure []
  | cons ex rest ih =>
    rw [extract_cons]
    refine C.seq (C.extractOne hG this hth argEs ex idx) fun p => ?_
    refine C.seq (ih p.2) fun vs => ?_
    exact C.pure _

theorem hostResult (C : Closed P T) (hG : Good T) (body : HostBody) (ps : List Value) :
    P 0 (hostResult body ps) := by
  cases body with
  | echo => exact C.pure _
  | fail => exact C.throw (hG _ rfl)
  | const v => exact C.pure _
  | first => exact C.pure _

/-- invoking a registered function spends the credit on the one call it may log; the shape of
the extracted parameters is what makes the built-in's outcome plain -/
theorem applyFn (C : Closed P T) (hG : Good T) {ctx : Ctx} {name : String} {k : FnKind}
    {this : Option Value} {thunks : List (EvalM Value)} (hth : ∀ t ∈ thunks, P 0 t)
    {argEs : List Expr} : P 1 (applyFn ctx name k this thunks argEs) := by
  cases k with
  | builtin b =>
    rw [applyFn_builtin]
    refine C.bind (C.extract hG this hth argEs b.sig 0) fun ps hps => ?_
    exact C.lift hG (Plain.applyBuiltin ctx b ps (extract_ret hps))
  | host sig body =>
    rw [applyFn_host]
    refine C.seq (C.extract hG this hth argEs sig 0) fun ps => ?_
    exact C.logCall _ (C.hostResult hG body ps)

theorem fnCall (C : Closed P T) (hG : Good T) (ctx : Ctx) (f : String)
    {target : Option (EvalM Value)} (htg : ∀ t, target = some t → P 0 t) (argEs : List Expr)
    {thunks : List (EvalM Value)} (hth : ∀ t ∈ thunks, P 0 t)
    (hund : ctx.getFunction f = none → T (.undeclared f)) :
    P 1 (fnCall ctx f target argEs thunks) := by
  unfold Cel.fnCall
  split
  · rename_i h
    exact C.throw (hund h)
  · split
    · exact C.applyFn hG hth
    · rename_i t
      exact C.seq (htg t rfl) fun tv => C.applyFn hG hth

theorem callNode (C : Closed P T) (hG : Good T) (ctx : Ctx) (f : String)
    {target : Option (EvalM Value)} (htg : ∀ t, target = some t → P 0 t) (argEs : List Expr)
    {thunks : List (EvalM Value)} (hth : ∀ t ∈ thunks, P 0 t)
    (hund : ReachesFn f thunks.length → ctx.getFunction f = none → T (.undeclared f)) :
    P 1 (callNode ctx f target argEs thunks) := by
  apply callNode_cases
  case cond =>
    rintro c a b rfl -
    refine C.seq (hth c (by simp)) fun cv => ?_
    exact C.ite (C.up (hth a (by simp))) (C.up (hth b (by simp)))
  case or =>
    rintro a b rfl -
    refine C.seq (hth a (by simp)) fun l => ?_
    exact C.ite (C.pure _) (C.up (hth b (by simp)))
  case and =>
    rintro a b rfl -
    refine C.seq (hth a (by simp)) fun l => ?_
    exact C.ite (C.pure _) (C.seq (hth b (by simp)) fun r => C.pure _)
  case bin =>
    rintro op a b rfl - -
    refine C.seq (hth a (by simp)) fun l => ?_
    refine C.seq (hth b (by simp)) fun r => ?_
    exact C.lift hG (Plain.applyBin op l r)
  case un =>
    rintro op a rfl -
    refine C.seq (hth a (by simp)) fun v => ?_
    exact C.lift hG (Plain.applyUn op v)
  case fn =>
    intro hr
    exact C.fnCall hG ctx f htg argEs hth (hund hr)

theorem loopG (C : Closed P T) (iv av : String) {evCond evStep : Scope → EvalM Value}
    {D : Scope → Prop} (hD : ∀ ⦃sc n v⦄, D sc → D (Ctx.scopeInsert sc n v))
    (hc : ∀ ⦃sc⦄, D sc → P 0 (evCond sc))
    (hs : ∀ ⦃sc⦄ item, D sc → P 0 (evStep (Ctx.scopeInsert sc iv item)))
    (items : List Value) {sc : Scope} (h : D sc) : P 0 (loopG iv av evCond evStep items sc) := by
  induction items generalizing sc with
  | nil => rw [loopG_nil]; exact C.pure sc
  | cons item rest ih =>
    rw [loopG_cons]
    refine C.seq (hc h) fun c => ?_
    refine C.ite (C.pure sc) ?_
    refine C.seq (hs item h) fun acc => ?_
    exact ih (hD (hD h))

theorem rangeOf (C : Closed P T) (hG : Good T) (r : Value) : P 0 (rangeOf r) :=
  rangeOf_cases r C.pure (C.throw (hG _ rfl))

theorem evalList (C : Closed P T) (ctx : Ctx) {es : List Expr}
    (h : ∀ e ∈ es, P 0 (eval ctx e)) : P 0 (evalList ctx es) := by
  induction es with
  | nil => rw [evalList_nil]; exact C.pure []
  | cons e es ih =>
    rw [evalList_cons]
    refine C.seq (h e (List.mem_cons_self ..)) fun v => ?_
    refine C.seq (ih fun e' he' => h e' (List.mem_cons_of_mem _ he')) fun vs => ?_
    exact C.pure _

theorem evalThunks (_ : Closed P T) (ctx : Ctx) {es : List Expr}
    (h : ∀ e ∈ es, P 0 (eval ctx e)) : ∀ t ∈ evalThunks ctx es, P 0 t := by
  intro t ht
  obtain ⟨e, he, rfl⟩ := mem_evalThunks ht
  exact h e he

theorem evalEntries (C : Closed P T) (hG : Good T) (ctx : Ctx) {es : List (Expr × Expr)}
    (h : ∀ kv ∈ es, P 0 (eval ctx kv.1) ∧ P 0 (eval ctx kv.2)) (acc : MapV) :
    P 0 (evalEntries ctx es acc) := by
  induction es generalizing acc with
  | nil => rw [evalEntries_nil]; exact C.pure acc
  | cons kv rest ih =>
    obtain ⟨k, v⟩ := kv
    obtain ⟨hk, hv⟩ := h (k, v) (List.mem_cons_self ..)
    rw [evalEntries_cons]
    refine C.seq hk fun kv => ?_
    split
    · exact C.throw (hG _ rfl)
    · exact C.seq hv fun vv => ih (fun kv' h' => h kv' (List.mem_cons_of_mem _ h')) _

end Closed

/-! C02's statements use `Compiled` under the name `Cel.Props.C02.Compiled`; it stands here because
`Guard.compiled` needs it. -/
namespace Props.C02

mutual
/-- no `Expr.unspecified` node anywhere in the tree (what `Program::compile` can produce) -/
def Compiled : Expr → Bool
  | .lit _ => true
  | .ident _ => true
  | .call _ args => CompiledList args
  | .mcall _ t args => Compiled t && CompiledList args
  | .select e _ _ => Compiled e
  | .list es => CompiledList es
  | .map es => CompiledEntries es
  | .struct _ _ vs => CompiledList vs
  | .comp _ r _ i c s res => Compiled r && Compiled i && Compiled c && Compiled s && Compiled res
  | .unspecified => false
def CompiledList : List Expr → Bool
  | [] => true
  | e :: es => Compiled e && CompiledList es
def CompiledEntries : List (Expr × Expr) → Bool
  | [] => true
  | (k, v) :: es => Compiled k && Compiled v && CompiledEntries es
end

theorem compiledList_mem {es : List Expr} (h : CompiledList es = true) :
    ∀ e ∈ es, Compiled e = true :=
  forall_mem_of_and_cons (fun _ _ => by rw [CompiledList]) h

theorem compiledEntries_mem {es : List (Expr × Expr)} (h : CompiledEntries es = true) :
    ∀ kv ∈ es, (Compiled kv.1 && Compiled kv.2) = true :=
  forall_mem_of_and_cons (fun _ _ => by rw [CompiledEntries]) h

end Props.C02

/-- what the traversal has to be told about a tree in a context, node by node: that the family
tolerates `undeclared` where a name is looked up and missing, and that the parts are guarded too,
in the contexts they are evaluated in — for a comprehension in every scope satisfying an invariant
`D` of its loop.  An `unspecified` node is guarded only if the family tolerates its panic. -/
structure Guard (P : Nat → ∀ {α : Type}, EvalM α → Prop) (T : ErrC → Prop)
    (G : Ctx → Expr → Prop) : Prop where
  ident : ∀ {ctx n}, G ctx (.ident n) → ctx.getVariable n = none → T (.undeclared n)
  call : ∀ {ctx f args}, G ctx (.call f args) → (∀ a ∈ args, G ctx a) ∧
    (ReachesFn f args.length → ctx.getFunction f = none → T (.undeclared f))
  mcall : ∀ {ctx f t args}, G ctx (.mcall f t args) → G ctx t ∧ (∀ a ∈ args, G ctx a) ∧
    (ReachesFn f args.length → ctx.getFunction f = none → T (.undeclared f))
  select : ∀ {ctx e field test}, G ctx (.select e field test) → G ctx e
  list : ∀ {ctx es}, G ctx (.list es) → ∀ e ∈ es, G ctx e
  map : ∀ {ctx es}, G ctx (.map es) → ∀ kv ∈ es, G ctx kv.1 ∧ G ctx kv.2
  comp : ∀ {ctx iv range av init cond step result},
    G ctx (.comp iv range av init cond step result) → G ctx init ∧ G ctx range ∧
      ∃ D : Scope → Prop, (∀ ⦃sc n v⦄, D sc → D (Ctx.scopeInsert sc n v)) ∧
        (∀ vinit, D [(av, vinit)]) ∧
        (∀ ⦃sc⦄, D sc → G (ctx.push sc) cond ∧ G (ctx.push sc) result) ∧
        (∀ ⦃sc⦄ item, D sc → G (ctx.push (Ctx.scopeInsert sc iv item)) step)
  unspecified : ∀ {ctx}, G ctx .unspecified → ∀ p, P 0 (M.panic p : EvalM Value)

/-- for the families that tolerate every error and the panic (`SI`, `LogB`) -/
theorem Guard.all {P : Nat → ∀ {α : Type}, EvalM α → Prop} {T : ErrC → Prop} (hT : ∀ e, T e)
    (hp : ∀ p, P 0 (M.panic p : EvalM Value)) : Guard P T fun _ _ => True where
  ident _ _ := hT _
  call _ := ⟨fun _ _ => trivial, fun _ _ => hT _⟩
  mcall _ := ⟨trivial, fun _ _ => trivial, fun _ _ => hT _⟩
  select _ := trivial
  list _ _ _ := trivial
  map _ _ _ := ⟨trivial, trivial⟩
  comp _ := ⟨trivial, trivial, fun _ => True, fun _ _ _ _ => trivial, fun _ => trivial,
    fun _ _ => ⟨trivial, trivial⟩, fun _ _ _ => trivial⟩
  unspecified _ := hp

open Props.C02 in
theorem Guard.compiled {P : Nat → ∀ {α : Type}, EvalM α → Prop} {T : ErrC → Prop} (hT : ∀ e, T e) :
    Guard P T fun _ e => Compiled e = true where
  ident _ _ := hT _
  call h := ⟨compiledList_mem h, fun _ _ => hT _⟩
  mcall h :=
    have h := Bool.and_eq_true_iff.1 h
    ⟨h.1, compiledList_mem h.2, fun _ _ => hT _⟩
  select h := h
  list h := compiledList_mem h
  map h kv hkv := Bool.and_eq_true_iff.mp (compiledEntries_mem h kv hkv)
  comp h := by
    simp only [Compiled, Bool.and_eq_true] at h
    obtain ⟨⟨⟨⟨hr, hi⟩, hc⟩, hs⟩, hres⟩ := h
    exact ⟨hi, hr, fun _ => True, fun _ _ _ _ => trivial, fun _ => trivial,
      fun _ _ => ⟨hc, hres⟩, fun _ _ _ => hs⟩
  unspecified h := by cases h

theorem Closed.eval {P : Nat → ∀ {α : Type}, EvalM α → Prop} {T : ErrC → Prop}
    {G : Ctx → Expr → Prop} (C : Closed P T) (hG : Good T) (g : Guard P T G) :
    ∀ e ctx, G ctx e → P 0 (eval ctx e) := by
  apply Expr.ind
  case lit =>
    intro v ctx _
    rw [eval_lit]
    exact C.tick (C.pure v)
  case ident =>
    intro n ctx h
    rw [eval_ident]
    refine C.tick ?_
    split
    · exact C.pure _
    · rename_i hnone
      exact C.throw (g.ident h hnone)
  case call =>
    intro f args ih ctx h
    obtain ⟨ha, hund⟩ := g.call h
    rw [eval_call]
    refine C.tick (C.callNode hG ctx f (target := none) (fun _ h => nomatch h) args
      (C.evalThunks ctx fun a hmem => ih a hmem ctx (ha a hmem)) ?_)
    rwa [evalThunks_length]
  case mcall =>
    intro f t args iht ih ctx h
    obtain ⟨ht, ha, hund⟩ := g.mcall h
    rw [eval_mcall]
    refine C.tick (C.callNode hG ctx f ?_ args
      (C.evalThunks ctx fun a hmem => ih a hmem ctx (ha a hmem)) ?_)
    · intro t' ht'
      cases ht'
      exact iht ctx ht
    · rwa [evalThunks_length]
  case select =>
    intro e field test ih ctx h
    rw [eval_select]
    refine C.tick (C.seq (ih ctx (g.select h)) fun v => ?_)
    exact C.ite (C.pure _) (C.lift hG (Plain.member ctx v field))
  case list =>
    intro es ih ctx h
    rw [eval_list]
    exact C.tick (C.seq (C.evalList ctx fun e he => ih e he ctx (g.list h e he)) fun vs => C.pure _)
  case map =>
    intro es ih ctx h
    rw [eval_map]
    refine C.tick (C.seq (C.evalEntries hG ctx (fun kv hkv => ?_) []) fun m => C.pure _)
    exact ⟨(ih kv hkv).1 ctx (g.map h kv hkv).1, (ih kv hkv).2 ctx (g.map h kv hkv).2⟩
  case struct =>
    intro name fields vals _ ctx _
    rw [eval_struct]
    exact C.tick (C.throw (hG _ rfl))
  case comp =>
    intro iv range av init cond step result ihr ihi ihc ihs ihres ctx h
    obtain ⟨hi, hr, D, hD, h0, hcr, hs⟩ := g.comp h
    rw [eval_comp]
    refine C.tick ?_
    refine C.seq (ihi ctx hi) fun vinit => ?_
    refine C.seq (ihr ctx hr) fun r => ?_
    refine C.seq (C.rangeOf hG r) fun items => ?_
    refine C.bind (C.loopG iv av hD (fun _ hsc => ihc _ (hcr hsc).1)
      (fun _ item hsc => ihs _ (hs item hsc)) items (h0 vinit)) fun sc hret => C.up ?_
    exact ihres _ (hcr (loopG_ret hD (h0 vinit) hret)).2
  case unspecified =>
    intro ctx h
    rw [eval_unspecified]
    exact g.unspecified h _

end Cel
