import CelModel.Cmp
/-!
# Lemmas about `CelModel.Cmp`: the scalar comparisons are core comparisons; equations of `Value.eq`

`cmpBool` and `cmpStr` (and `F64.EInt.cmp`, in `F64Lemmas`) are each identified with a comparison
that core already knows to be a linear order (`Std.TransCmp`, `Std.LawfulEqCmp`); every order law
used by `CelModel.Props.C09` is then the class's.  At the end, the list and map clauses of `Value.eq`
as equations.
-/
namespace Cel
open Std

@[simp] theorem rev_lt : Ordering.rev .lt = .gt := rfl
@[simp] theorem rev_gt : Ordering.rev .gt = .lt := rfl
@[simp] theorem rev_eq : Ordering.rev .eq = .eq := rfl

theorem rev_eq_swap (o : Ordering) : Ordering.rev o = o.swap := by cases o <;> rfl

/-! what the classes give, in the shape the value-level statements use (`Ordering.rev`, `= o`) -/
section Laws
variable {α : Type} {cmp : α → α → Ordering}

theorem cmp_swap_rev [OrientedCmp cmp] (a b : α) : cmp b a = Ordering.rev (cmp a b) := by
  rw [rev_eq_swap]; exact OrientedCmp.eq_swap

theorem cmp_trans_of_eq [TransCmp cmp] {a b c : α} {o : Ordering} (h1 : cmp a b = o)
    (h2 : cmp b c = o) : cmp a c = o := by
  cases o
  · exact TransCmp.lt_trans h1 h2
  · exact TransCmp.eq_trans h1 h2
  · exact TransCmp.gt_trans h1 h2

theorem beq_eq_cmp [LawfulEqCmp cmp] [BEq α] [LawfulBEq α] (a b : α) : (a == b) = (cmp a b == .eq) := by
  rw [Bool.eq_iff_iff, beq_iff_eq, LawfulEqCmp.compare_beq_iff_eq]

end Laws

theorem cmpBool_eq_compare : cmpBool = compare := by
  funext a b; cases a <;> cases b <;> rfl

instance : TransCmp cmpBool := cmpBool_eq_compare ▸ (inferInstance : TransOrd Bool)
instance : LawfulEqCmp cmpBool := cmpBool_eq_compare ▸ (inferInstance : LawfulEqOrd Bool)

theorem cmpStr_cons_lt {x y : Char} {xs ys : Str} (h : x.toNat < y.toNat) :
    cmpStr (x :: xs) (y :: ys) = .lt := by
  simp [cmpStr, h]
theorem cmpStr_cons_gt {x y : Char} {xs ys : Str} (h : y.toNat < x.toNat) :
    cmpStr (x :: xs) (y :: ys) = .gt := by
  have : ¬ x.toNat < y.toNat := by omega
  simp [cmpStr, h, this]
theorem cmpStr_cons_eq {x y : Char} {xs ys : Str} (h : x.toNat = y.toNat) :
    cmpStr (x :: xs) (y :: ys) = cmpStr xs ys := by
  simp [cmpStr, h]

instance : LawfulEqCmp (compareOn Char.toNat) where
  eq_of_compare h := Char.toNat_inj.1 (compare_eq_iff_eq.1 h)

theorem cmpStr_eq_compareLex : cmpStr = List.compareLex (compareOn Char.toNat) := by
  funext a b
  induction a generalizing b with
  | nil => cases b <;> rfl
  | cons x xs ih =>
    cases b with
    | nil => rfl
    | cons y ys =>
      rw [List.compareLex_cons_cons, ← ih]
      rcases Nat.lt_trichotomy x.toNat y.toNat with p | p | p
      · rw [cmpStr_cons_lt p, compareOn, Nat.compare_eq_lt.2 p]; rfl
      · rw [cmpStr_cons_eq p, compareOn, Nat.compare_eq_eq.2 p]; rfl
      · rw [cmpStr_cons_gt p, compareOn, Nat.compare_eq_gt.2 p]; rfl

instance : TransCmp cmpStr := cmpStr_eq_compareLex ▸ (inferInstance : TransCmp (List.compareLex _))
instance : LawfulEqCmp cmpStr :=
  cmpStr_eq_compareLex ▸ (inferInstance : LawfulEqCmp (List.compareLex _))

/-! the container clauses of the mutual `Value.eq`, each by `rfl`; to be used instead of
`simp only [Value.eq]`, which needs the unfolding lemmas of all three functions -/
theorem Value.eq_list (a b : List Value) : Value.eq (.list a) (.list b) = eqList a b := rfl
theorem Value.eq_map (a b : MapV) :
    Value.eq (.map a) (.map b) = (a.length == b.length && eqEntries a b) := rfl
theorem eqList_cons (x y : Value) (xs ys : List Value) :
    eqList (x :: xs) (y :: ys) = (Value.eq x y && eqList xs ys) := rfl
theorem eqEntries_cons (k : Key) (v : Value) (rest b : List (Key × Value)) :
    eqEntries ((k, v) :: rest) b =
      ((match MapV.find? b k with
        | some v' => Value.eq v v'
        | none => false) && eqEntries rest b) := rfl

end Cel
