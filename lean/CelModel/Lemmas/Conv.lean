import CelModel.Lemmas.Digits
/-!
# For the conversions of C13: when `uint(double)`'s test `0 > f` fails (`cmp_zero_gt`), and what
`parseIntText`, behind `int(string)` / `uint(string)`, makes of a digit string
-/
namespace Cel.Lemmas.Conv
open Cel.Lemmas.Digits

theorem truncMag_zero (e : Int) : F64.truncMag 0 e = 0 := by
  unfold F64.truncMag
  split
  · exact Nat.zero_mul _
  · exact Nat.zero_div _

theorem eq_zero_iff_trunc_frac (m : Nat) (e : Int) :
    m = 0 ↔ F64.truncMag m e = 0 ∧ F64.fracNonzero m e = false := by
  unfold F64.truncMag F64.fracNonzero
  split
  · simp [Nat.mul_eq_zero]
  · have := Nat.div_add_mod m (2 ^ (-e).toNat)
    simp only [bne_eq_false_iff_eq]
    constructor
    · rintro rfl
      simp
    · rintro ⟨h1, h2⟩
      rw [h1, h2] at this
      omega

/-- `0 > f` for a finite double `f` exactly when `f` is negative and non-zero -/
theorem cmp_zero_gt (neg : Bool) (m : Nat) (e : Int) :
    (F64.cmpIntD 0 (.fin neg m e) != some .gt) = decide (neg = false ∨ m = 0) := by
  have hz := eq_zero_iff_trunc_frac m e
  simp only [F64.cmpIntD, F64.sgn]
  generalize F64.truncMag m e = t at *
  generalize F64.fracNonzero m e = f at *
  rcases Nat.eq_zero_or_pos t with rfl | ht
  · cases neg <;> cases f <;> simp [hz]
  · have hm : m ≠ 0 := fun h => by simp [hz.1 h] at ht
    cases neg
    · simp [Int.compare_eq_lt.2 (show (0 : Int) < t by omega)]
    · simp [Int.compare_eq_gt.2 (show -(t : Int) < 0 by omega), hm]

theorem isDigit_fun_eq : (fun c : Char => decide ('0' ≤ c) && decide (c ≤ '9')) = Lexer.isDigit := by
  funext c; rfl

theorem parseIntText_digits (allow : Bool) {ds : Str} (hall : ds.all Lexer.isDigit = true)
    (hne : ds ≠ []) :
    parseIntText allow ds = some (DecText.val ds : Int) ∧
      parseIntText true ('-' :: ds) = some (-(DecText.val ds : Int)) := by
  refine ⟨?_, by simp [parseIntText, isDigit_fun_eq, hall, hne]⟩
  unfold parseIntText
  split
  rename_i heq
  split at heq
  -- the text does not start with `-` or `+`: they are not digits
  · simp [Lexer.isDigit] at hall
  · simp [Lexer.isDigit] at hall
  · simp only [Prod.mk.injEq] at heq
    obtain ⟨h1, h2⟩ := heq
    subst h1 h2
    simp [isDigit_fun_eq, hall, hne]

theorem parseIntText_dec (allow : Bool) (n : Nat) :
    parseIntText allow (natToDec n) = some (n : Int) := by
  rw [(parseIntText_digits allow (dec_all_isDigit n) (DecText.natToDec_ne_nil n)).1,
    DecText.val_natToDec]

theorem parseIntText_neg_dec (n : Nat) :
    parseIntText true ('-' :: natToDec n) = some (-(n : Int)) := by
  rw [(parseIntText_digits true (dec_all_isDigit n) (DecText.natToDec_ne_nil n)).2,
    DecText.val_natToDec]

end Cel.Lemmas.Conv
