import CelModel.Eval
/-!
# Rewriting lemmas for the evaluation monad

The equations applied to a state are `@[simp]`, for the `simp` that closes what is left; the steps
before it are `rw [M.tick_bind, M.bind_ok h]` by name, which says which computation is run.
`Ret m a`, "some run of `m` returns `a`", is the side condition of the bind rule of every calculus.
-/
namespace Cel

def tickSt (st : St β) : St β := { st with steps := st.steps + 1 }

namespace M

@[simp] theorem pure_apply (a : α) (s : St β) : (Pure.pure a : M β α) s = (.ok a, s) := rfl
@[simp] theorem throw_apply (e : ErrC) (s : St β) : (M.throw e : M β α) s = (.err e, s) := rfl
@[simp] theorem panic_apply (p : String) (s : St β) : (M.panic p : M β α) s = (.panic p, s) := rfl
@[simp] theorem lift_apply (o : Outcome α) (s : St β) : (M.lift o : M β α) s = (o, s) := rfl
@[simp] theorem tick_apply (s : St β) : (M.tick : M β Unit) s = (.ok (), tickSt s) := rfl

theorem bind_apply (m : M β α) (f : α → M β γ) (s : St β) :
    (m >>= f) s = match m s with
      | (.ok a, s') => f a s'
      | (.err e, s') => (.err e, s')
      | (.panic p, s') => (.panic p, s') := rfl

theorem bind_ok {m : M β α} {f : α → M β γ} {s s' : St β} {a : α} (h : m s = (.ok a, s')) :
    (m >>= f) s = f a s' := by
  rw [bind_apply, h]

theorem bind_err {m : M β α} {f : α → M β γ} {s s' : St β} {e : ErrC} (h : m s = (.err e, s')) :
    (m >>= f) s = (.err e, s') := by
  rw [bind_apply, h]

theorem bind_panic {m : M β α} {f : α → M β γ} {s s' : St β} {p : String}
    (h : m s = (.panic p, s')) : (m >>= f) s = (.panic p, s') := by
  rw [bind_apply, h]

@[simp] theorem tick_bind (f : Unit → M β γ) (s : St β) : (M.tick >>= f) s = f () (tickSt s) := rfl

@[simp] theorem pure_bind' (a : α) (f : α → M β γ) (s : St β) :
    ((Pure.pure a : M β α) >>= f) s = f a s := rfl

@[simp] theorem lift_ok_bind (a : α) (f : α → M β γ) (s : St β) :
    ((M.lift (.ok a) : M β α) >>= f) s = f a s := rfl

/-! the monad laws; they are used by name in `rw`, so no `LawfulMonad` instance is declared -/

theorem bind_assoc (m : M β α) (f : α → M β γ) (g : γ → M β δ) :
    (m >>= f) >>= g = m >>= fun a => f a >>= g := by
  funext s
  simp only [bind_apply]
  cases h : m s with
  | mk o s1 => cases o <;> rfl

theorem pure_bind (a : α) (f : α → M β γ) : (Pure.pure a : M β α) >>= f = f a := rfl

theorem bind_pure (m : M β α) : m >>= (fun a => (Pure.pure a : M β α)) = m := by
  funext s
  simp only [bind_apply]
  cases h : m s with
  | mk o s1 => cases o <;> rfl

theorem lift_ok (a : α) : (M.lift (.ok a) : M β α) = Pure.pure a := rfl

theorem bind_congr {m : M β α} {f g : α → M β γ} (h : ∀ a, f a = g a) : m >>= f = m >>= g := by
  have : f = g := funext h
  rw [this]

theorem map_eq_bind (f : α → γ) (m : M β α) : f <$> m = m >>= fun a => Pure.pure (f a) := rfl

end M

/-- `a` is a value that `m` returns from some state -/
def Ret (m : M β α) (a : α) : Prop := ∃ s s', m s = (.ok a, s')

namespace Ret

theorem of_bind {m : M β α} {f : α → M β γ} {b : γ} (h : Ret (m >>= f) b) :
    ∃ a, Ret m a ∧ Ret (f a) b := by
  obtain ⟨s, s', h⟩ := h
  rw [M.bind_apply] at h
  rcases hm : m s with ⟨o, s1⟩
  rw [hm] at h
  cases o with
  | ok a => exact ⟨a, ⟨s, s1, hm⟩, ⟨s1, s', h⟩⟩
  | err e => cases h
  | panic p => cases h

theorem of_pure {a b : α} (h : Ret (Pure.pure a : M β α) b) : b = a := by
  obtain ⟨s, s', h⟩ := h
  cases h
  rfl

theorem of_throw {e : ErrC} {b : α} (h : Ret (M.throw e : M β α) b) : False := by
  obtain ⟨s, s', h⟩ := h
  cases h

theorem of_lift {o : Outcome α} {b : α} (h : Ret (M.lift o : M β α) b) : o = .ok b := by
  obtain ⟨s, s', h⟩ := h
  cases h
  rfl

end Ret

/-! `Outcome.bind` on a result and on an error, for conversions chained outside the evaluator
(`(stringFn v).bind intFn`) -/

theorem Outcome.bind_ok (a : α) (f : α → Outcome β) : (Outcome.ok a).bind f = f a := rfl
theorem Outcome.bind_err (e : ErrC) (f : α → Outcome β) :
    (Outcome.err e : Outcome α).bind f = .err e := rfl

end Cel
