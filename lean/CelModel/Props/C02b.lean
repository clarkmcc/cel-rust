import CelModel.Props.C02
import CelModel.Lemmas.ParserCompiled
/-!
# C02 (continued) — from source text to outcome: compiling and executing never panics

`execute_no_panic` (C02) holds for every tree without an `Expr.unspecified` node.  Here that side
condition is discharged against the parser model: whatever text the parser accepts, the tree it
builds (macro expansions included) contains no such node.
-/
namespace Cel.Props.C02
open Cel.Parser

theorem parseTop_compiled (ts : Toks) (e : Expr) (h : parseTop ts = some e) :
    Compiled e = true :=
  ParserCompiled.parseExpr_compiled (parseTop_some h)

/-- a tree returned by `Program::compile` (lexer, parser, macro expansion) has no `Expr::Unspecified`
node: the side condition of `execute_no_panic` -/
theorem compile_compiled (src : Str) (e : Expr) (h : compile src = some e) : Compiled e = true := by
  obtain ⟨ts, _, h⟩ := compile_some h
  exact parseTop_compiled ts e h

/-- for every source text and every context, `Program::compile(src)` followed by
`execute(ctx)` is a compile error, a value or an execution error — never a panic -/
theorem compile_execute_no_panic (src : Str) (ctx : Ctx) (e : Expr) (h : compile src = some e) :
    ((execute ctx e).1).isPanic = false :=
  execute_no_panic e (compile_compiled src e h) ctx

end Cel.Props.C02
