import CelModel.Lemmas.Monad
import CelModel.Lemmas.F64Round
import CelModel.Lemmas.F64DigitsAsm
import CelModel.Lemmas.F64Text
/-!
# C13 (continued) — `string(double)` followed by `double(string)` returns the original double

`F64.fmt` is the model of Rust's shortest round-trip `Display for f64`, `F64.parse` of the
correctly rounded `FromStr for f64`.  The printed digits lie in the rounding interval of the
double (`shortestDigits_spec`), and a fraction in that interval rounds back to the double
(`roundRatPos_of_interval`); the rest is the placement of the decimal point.
-/
namespace Cel.Props.C13

/-- signed zeros included -/
theorem parse_fmt_fin (b : UInt64) (neg : Bool) (m : Nat) (e : Int) (hd : F64.decode b = .fin neg m e) :
    F64.parse (F64.fmt b) = some b := by
  obtain ⟨hpos, hb⟩ := F64.decodeNat_sign (UInt64.toNat_lt b) hd
  have hlt : b.toNat % 2 ^ 63 < 2 ^ 63 := Nat.mod_lt _ (by decide)
  have hback : ∀ bits : Nat, bits = b.toNat % 2 ^ 63 →
      UInt64.ofNat (bits + (if neg then 2 ^ 63 else 0)) = b := by
    intro bits hbits
    rw [hbits, ← hb, UInt64.ofNat_toNat]
  by_cases hm : m = 0
  · subst hm
    have h0 := F64.decodeNat_zero hlt hpos
    rw [F64.fmt_zero hd, F64.parse_int neg ['0'] (by simp)
      (by intro c hc; rw [List.mem_singleton.1 hc]; decide)]
    have hz : F64.parseFin neg ['0'] [] 0 = UInt64.ofNat (0 + (if neg then 2 ^ 63 else 0)) := by
      cases neg <;> decide
    rw [hz, hback 0 h0.symm]
  · obtain ⟨hv, henc⟩ := F64.decodeNat_validFin hlt hpos (Nat.pos_of_ne_zero hm)
    obtain ⟨-, hdig, hk, hin⟩ := F64.shortestDigits_spec m e hv
    have hden := F64.fracOfDigits_den_pos (F64.shortestDigits m e).2 (F64.shortestDigits m e).1
    have hnum := F64.InInterval_num_pos hv.1 hden hin
    rw [F64.fmt_fin hd hm, F64.parse_layout neg hdig hk hnum,
      F64.ofRat_of_round neg (F64.roundRatPos_of_interval m e hv _ _ hden hin),
      hback _ henc]

theorem parse_fmt_inf (b : UInt64) (neg : Bool) (hd : F64.decode b = .inf neg) :
    F64.parse (F64.fmt b) = some b := by
  have hb : b = if neg then F64.negInfBits else F64.posInfBits := by
    rw [← UInt64.ofNat_toNat (x := b), F64.decodeNat_inf (UInt64.toNat_lt b) hd]
    cases neg <;> rfl
  rw [hb]
  cases neg <;> decide

/-- Round trip for doubles: `double(string(f)) == f` bit for bit (NaN canonicalised) -/
theorem string_double_roundtrip (f : UInt64) :
    (stringFn (.dbl f)).bind doubleFn = .ok (.dbl (F64.canon f)) := by
  have hp : F64.parse (F64.fmt f) = some (F64.canon f) := by
    unfold F64.canon F64.isNaN
    cases hd : F64.decode f with
    | fin neg m e => exact parse_fmt_fin f neg m e hd
    | inf neg => exact parse_fmt_inf f neg hd
    | nan =>
      -- every NaN prints as `NaN` and parses to the canonical one
      have hfmt : F64.fmt f = "NaN".toList := by
        unfold F64.fmt
        rw [hd]
      rw [hfmt]
      exact (by decide : F64.parse "NaN".toList = some F64.nanBits)
  simp only [stringFn, Outcome.bind_ok, doubleFn, hp]

example : F64.parse (F64.fmt 0x3fb999999999999a) = some 0x3fb999999999999a := by decide +kernel  -- 0.1
example : F64.fmt 0x3fb999999999999a = "0.1".toList := by decide +kernel

end Cel.Props.C13
