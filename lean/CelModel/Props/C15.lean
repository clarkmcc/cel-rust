import CelModel.Props.C08
import CelModel.Lemmas.DurRoundTrip
/-!
# C15 — durations parse, print, add and compare exactly

`Dur.format` is the integer algorithm of `format_duration` (a port of Go's `Duration.String`),
`Dur.parse` the term parser of `duration()`.
-/
namespace Cel.Props.C15

/-! ## reading: what `Dur.parse` accepts is in the grammar and in range; the value of a term -/

def isDigitC (c : Char) : Prop := '0' ≤ c ∧ c ≤ '9'

inductive IsUnit : Str → Prop
  | ns : IsUnit ['n', 's']
  | us : IsUnit ['u', 's']
  | micro : IsUnit ['µ', 's']
  | mu : IsUnit ['μ', 's']
  | ms : IsUnit ['m', 's']
  | s : IsUnit ['s']
  | m : IsUnit ['m']
  | h : IsUnit ['h']

/-- one term: digits with an optional fraction (at least one digit overall), then a unit -/
inductive IsTerm : Str → Prop
  | mk (ip fp : Str) (dot : Bool) (u : Str)
      (hi : ∀ c ∈ ip, isDigitC c) (hf : ∀ c ∈ fp, isDigitC c)
      (hne : ip ≠ [] ∨ fp ≠ []) (hdot : dot = false → fp = []) (hu : IsUnit u) :
      IsTerm (ip ++ (if dot then ['.'] else []) ++ fp ++ u)

inductive IsTerms : Str → Prop
  | one (t : Str) : IsTerm t → IsTerms t
  | cons (t rest : Str) : IsTerm t → IsTerms rest → IsTerms (t ++ rest)

/-- the whole text: an optional sign, then `0` or a term sequence — nothing else -/
inductive IsDurationText : Str → Prop
  | zero (neg : Bool) : IsDurationText ((if neg then ['-'] else []) ++ ['0'])
  | terms (neg : Bool) (body : Str) : IsTerms body → IsDurationText ((if neg then ['-'] else []) ++ body)

theorem takeUnit_isUnit (s : Str) (u : Nat) (rest : Str) :
    Dur.takeUnit s = some (u, rest) → ∃ us, IsUnit us ∧ s = us ++ rest := by
  fun_cases Dur.takeUnit s
  case case9 => exact nofun
  -- one goal per unit, in the order of the clauses of `takeUnit`
  all_goals rintro ⟨⟩
  · exact ⟨_, .ns, rfl⟩
  · exact ⟨_, .us, rfl⟩
  · exact ⟨_, .micro, rfl⟩
  · exact ⟨_, .mu, rfl⟩
  · exact ⟨_, .ms, rfl⟩
  · exact ⟨_, .s, rfl⟩
  · exact ⟨_, .m, rfl⟩
  · exact ⟨_, .h, rfl⟩

theorem takeTerm_isTerm (s : Str) (v : Nat) (rest : Str) (h : Dur.takeTerm s = some (v, rest)) :
    ∃ t, IsTerm t ∧ s = t ++ rest := by
  rw [Dur.takeTerm_def] at h
  obtain ⟨hs, hip, _⟩ := Dur.takeDigits_spec s
  obtain ⟨dot, hr, hfp, hdot⟩ := Dur.fracPart_spec (Dur.takeDigits s).2
  generalize (Dur.takeDigits s).1 = ip at *
  generalize (Dur.takeDigits s).2 = r1 at *
  generalize (Dur.fracPart r1).1 = fp at *
  generalize (Dur.fracPart r1).2 = r2 at *
  split at h
  · exact absurd h (by simp)
  · next hne =>
    split at h
    · exact absurd h (by simp)
    · next unit rest' hu =>
      simp only [Option.some.injEq, Prod.mk.injEq] at h
      obtain ⟨_, hrest⟩ := h
      subst hrest
      obtain ⟨us, hus, hr2⟩ := takeUnit_isUnit r2 unit rest' hu
      have hne' : ip ≠ [] ∨ fp ≠ [] := by
        cases ip with
        | cons _ _ => exact Or.inl (by simp)
        | nil =>
          cases fp with
          | cons _ _ => exact Or.inr (by simp)
          | nil => simp at hne
      refine ⟨_, IsTerm.mk ip fp dot us (fun c hc => (Lemmas.DecText.isDigit_iff c).1 (hip c hc))
        (fun c hc => (Lemmas.DecText.isDigit_iff c).1 (hfp c hc)) hne' hdot hus, ?_⟩
      rw [hs, hr, hr2]
      simp only [List.append_assoc]

theorem parseTerms_isTerms {fuel : Nat} {s : Str} {acc v : Nat}
    (h : Dur.parseTerms fuel s acc = some v) : IsTerms s := by
  induction fuel generalizing s acc with
  | zero => simp [Dur.parseTerms] at h
  | succ f ih =>
    unfold Dur.parseTerms at h
    split at h
    · exact absurd h (by simp)
    · next w rest ht =>
      obtain ⟨t, hterm, hs⟩ := takeTerm_isTerm s w rest ht
      split at h
      · next he =>
        have : rest = [] := by cases rest <;> simp_all
        subst this
        rw [hs, List.append_nil]
        exact .one t hterm
      · rw [hs]
        exact .cons t rest hterm (ih h)

/-- `duration()` accepts a string only if the whole of it is a sequence of
decimal-number-plus-unit terms, optionally signed: trailing text, a missing unit, inner signs,
exponents, `inf`, `nan`, spaces are all rejected because they are not in the grammar. -/
theorem parse_accepts_only_full_term_sequences (s : Str) (v : Int) (h : Dur.parse s = some v) :
    IsDurationText s := by
  rw [Dur.parse_def] at h
  have hs := Dur.signPart_spec s
  generalize (Dur.signPart s).1 = neg at *
  generalize (Dur.signPart s).2 = body at *
  rw [hs]
  split at h
  · next hz =>
    have : body = ['0'] := by simpa using hz
    subst this
    exact .zero neg
  · split at h
    · exact absurd h (by simp)
    · next mag hp => exact .terms neg body (parseTerms_isTerms hp)

/-- every value `duration()` accepts fits signed 64-bit nanoseconds -/
theorem parse_value_in_range (s : Str) (v : Int) (h : Dur.parse s = some v) : inI64 v = true := by
  rw [Dur.parse_def] at h
  split at h
  · simp only [Option.some.injEq] at h
    subst h; rfl
  · split at h
    · exact absurd h (by simp)
    · simp only [Option.ite_none_right_eq_some, Option.some.injEq] at h
      obtain ⟨hin, rfl⟩ := h
      exact hin

/-- the value of one term written with a point, `ip.fp` and a unit: whole part times the unit plus
the fraction times the unit truncated toward zero, the fraction cut after its 18th digit as
`parse_number_unit` in `duration.rs` cuts it (beyond 18 digits this is not the truncation of the exact
product) -/
theorem term_value_exact (ip fp : Str) (unit : Nat) (u rest : Str)
    (hi : ∀ c ∈ ip, '0' ≤ c ∧ c ≤ '9') (hf : ∀ c ∈ fp, '0' ≤ c ∧ c ≤ '9') (hne : ip ≠ [] ∨ fp ≠ [])
    (hu : Dur.takeUnit (u ++ rest) = some (unit, rest))
    (hu0 : ∀ c, u.head? = some c → ¬ ('0' ≤ c ∧ c ≤ '9') ∧ c ≠ '.') (hune : u ≠ []) :
    Dur.takeTerm (ip ++ ['.'] ++ fp ++ u ++ rest) =
      some (Dur.digitsToNat ip * unit + Dur.digitsToNat (fp.take 18) * unit / 10 ^ (fp.take 18).length, rest) := by
  have := Dur.takeTerm_frac ip fp (u ++ rest)
    (fun c hc => (Lemmas.DecText.isDigit_iff c).2 (hi c hc)) (fun c hc => (Lemmas.DecText.isDigit_iff c).2 (hf c hc))
    hne hu
  rw [← this]
  simp only [List.append_assoc, List.cons_append, List.nil_append]

/-! ## printing: the sign, zero and the units below one second; the `h`/`m`/`s` branch of `formatMag`
is covered by the round trip only -/

theorem format_zero : Dur.format 0 = "0s".toList := by
  decide

/-- a negative duration prints as `-` followed by the rendering of its magnitude -/
theorem format_neg (ns : Int) (h : ns < 0) : Dur.format ns = '-' :: Dur.formatMag ns.natAbs := by
  simp [Dur.format, h]

theorem format_nonneg (ns : Int) (h : 0 ≤ ns) : Dur.format ns = Dur.formatMag ns.natAbs := by
  simp [Dur.format, h]

/-- below one second the unit is the largest of ns / µs / ms that leaves a non-zero integer part -/
theorem format_subsecond (u : Nat) (h0 : 0 < u) (h : u < 1000000000) :
    (u < 1000 → Dur.formatMag u = natToDec u ++ "ns".toList) ∧
    (1000 ≤ u → u < 1000000 → Dur.formatMag u = natToDec (u / 1000) ++ (Dur.fmtFrac 3 u false []).1 ++ "µs".toList) ∧
    (1000000 ≤ u → Dur.formatMag u = natToDec (u / 1000000) ++ (Dur.fmtFrac 6 u false []).1 ++ "ms".toList) := by
  refine ⟨fun h3 => ?_, fun h3 h6 => ?_, fun h6 => ?_⟩
  · rw [Dur.formatMag_ns u (by omega) h3]; simp
  · rw [Dur.formatMag_micro u h3 h6, Dur.fmtFrac_eq]; simp
  · rw [Dur.formatMag_ms u h6 h, Dur.fmtFrac_eq]; simp

theorem fmtFrac_quotient (prec v : Nat) : (Dur.fmtFrac prec v false []).2 = v / 10 ^ prec := by
  rw [Dur.fmtFrac_eq]

theorem fmtFrac_zero_fraction (prec v : Nat) (h : v % 10 ^ prec = 0) :
    (Dur.fmtFrac prec v false []).1 = [] := by
  obtain ⟨ds, -, -, h0, -, hs⟩ := Dur.fracStr_spec prec v
  rw [← Dur.fracStr, hs, if_pos (h0 h)]

/-- Round trip: for every duration representable in signed 64-bit nanoseconds,
`duration(string(d)) == d`. -/
theorem parse_format_roundtrip (ns : Int) (h : inI64 ns = true) :
    Dur.parse (Dur.format ns) = some ns := by
  by_cases hneg : ns < 0
  · have e : ns = -((ns.natAbs : Nat) : Int) := by omega
    rw [format_neg ns hneg]
    rw [e] at h
    rw [Dur.parse_neg_formatMag _ h, ← e]
  · have e : ns = ((ns.natAbs : Nat) : Int) := by omega
    rw [format_nonneg ns (by omega)]
    rw [e] at h
    rw [Dur.parse_pos_formatMag _ h, ← e]

/-! ## arithmetic and comparison act on the exact nanosecond counts -/

theorem add_sub_exact_or_error (a b : Int) :
    arith .add (.dur a) (.dur b) =
      (if Dur.inRange (a + b) then .ok (.dur (a + b)) else .err .overflow) ∧
    arith .sub (.dur a) (.dur b) =
      (if Dur.inRange (a - b) then .ok (.dur (a - b)) else .err .overflow) := by
  exact ⟨rfl, rfl⟩

theorem cmp_is_nanos_cmp (a b : Int) :
    Value.partialCmp (.dur a) (.dur b) = some (compare a b) ∧ Value.eq (.dur a) (.dur b) = (a == b) := by
  exact ⟨rfl, rfl⟩

/-- `C08.arith_no_panic` at two durations: a sum or difference beyond chrono's `TimeDelta` range is the
overflow error, not a panic -/
theorem duration_ops_no_panic (op : ArithOp) (a b : Int) :
    (arith op (.dur a) (.dur b)).isPanic = false :=
  C08.arith_no_panic op _ _

/-! ### non-vacuity: a sequence of terms is accepted and summed; trailing text, a second sign, an
exponent, `inf` and a bare number are rejected; what is printed for a negative and a sub-second value -/
example : Dur.parse "1h30m".toList = some 5400000000000 := by
  decide
example : Dur.parse "1s foo".toList = none ∧ Dur.parse "--1s".toList = none ∧ Dur.parse "1e3s".toList = none
    ∧ Dur.parse "infs".toList = none ∧ Dur.parse "1".toList = none := by
  decide
example : Dur.format (-2000000000) = "-2s".toList ∧ Dur.format 1500000 = "1.5ms".toList := by
  decide

end Cel.Props.C15
