import CelModel.Props.C11
/-!
# C11 (second part) — nested macros that reuse a name; arbitrarily deep scope histories
-/
namespace Cel.Props.C11

/-- nested macros reusing the variable name: the innermost element wins inside …
(`macro_var_denotes_current_element` at the context the outer macro made) -/
theorem nested_reuse_innermost_wins (c : Ctx) (v : String) (a1 x1 a2 x2 : Value)
    (hv : v ≠ Macros.accu) (st : St Value) :
    eval ((c.push [(Macros.accu, a1), (v, x1)]).push [(Macros.accu, a2), (v, x2)]) (.ident v) st
      = (.ok x2, tickSt st) :=
  macro_var_denotes_current_element (c.push [(Macros.accu, a1), (v, x1)]) v a2 x2 hv st

/-- … and once the inner scope is dropped (by the host-side `pop`; `eval` never pops, the inner context
simply goes out of use) the outer element is what the name denotes again -/
theorem nested_reuse_outer_restored (c : Ctx) (v : String) (a1 x1 a2 x2 : Value)
    (hv : v ≠ Macros.accu) (st : St Value) :
    ((c.push [(Macros.accu, a1), (v, x1)]).push [(Macros.accu, a2), (v, x2)]).pop
      = c.push [(Macros.accu, a1), (v, x1)] ∧
    eval (((c.push [(Macros.accu, a1), (v, x1)]).push [(Macros.accu, a2), (v, x2)]).pop) (.ident v) st
      = (.ok x1, tickSt st) :=
  ⟨rfl, macro_var_denotes_current_element c v a1 x1 hv st⟩

/-- inside nested macros with *different* variables both elements are visible, each under its own
name -/
theorem nested_distinct_both_visible (c : Ctx) (v w : String) (a1 x1 a2 x2 : Value)
    (hv : v ≠ Macros.accu) (hw : w ≠ Macros.accu) (hvw : v ≠ w) :
    ((c.push [(Macros.accu, a1), (v, x1)]).push [(Macros.accu, a2), (w, x2)]).getVariable w = some x2 ∧
    ((c.push [(Macros.accu, a1), (v, x1)]).push [(Macros.accu, a2), (w, x2)]).getVariable v = some x1 := by
  constructor
  · apply Ctx.getVariable_push_of_lookup
    rw [lookup_macroScope, if_neg (Ne.symm hw), if_pos rfl]
  · rw [inner_scope_sees_outer]
    · apply Ctx.getVariable_push_of_lookup
      rw [lookup_macroScope, if_neg (Ne.symm hv), if_pos rfl]
    · rw [lookup_macroScope, if_neg (Ne.symm hv), if_neg (Ne.symm hvw)]

/-- `drop_restores_parent` for a scope that starts with any bindings, as macro scopes do -/
theorem drop_restores_parent_any_scope (c : Ctx) (s0 : Scope) (defs : List (String × Value))
    (hs : c.scopes ≠ []) :
    (defs.foldl (fun c' d => c'.bind d.1 d.2) (c.push s0)).pop = c := by
  rw [foldl_bind_push]
  exact pop_push hs

/-- any depth: scopes opened on top of each other, each defined in, then all dropped — the original
context is back.  `levels` lists, innermost last, the initial bindings of each opened scope and the
definitions made in it before the next one is opened. -/
theorem drop_all_restores (c : Ctx) (levels : List (Scope × List (String × Value)))
    (hs : c.scopes ≠ []) :
    Nat.repeat Ctx.pop levels.length
      (levels.foldl (fun c' lv => lv.2.foldl (fun c'' d => c''.bind d.1 d.2) (c'.push lv.1)) c) = c := by
  induction levels generalizing c with
  | nil => rfl
  | cons lv rest ih =>
    -- after its definitions the first level is still `c.push s₁` for some scope `s₁`
    rw [List.foldl_cons, foldl_bind_push]
    show Ctx.pop (Nat.repeat Ctx.pop rest.length _) = c
    rw [ih (c.push _) (List.cons_ne_nil _ _), pop_push hs]

/-- a name nobody defines stays absent under any stack of scopes that do not define it -/
theorem absent_stays_absent (c : Ctx) (ss : List Scope) (n : String)
    (hc : c.getVariable n = none) (hss : ∀ s ∈ ss, Ctx.lookupScope s n = none) :
    (ss.foldl Ctx.push c).getVariable n = none := by
  induction ss generalizing c with
  | nil => exact hc
  | cons s rest ih =>
    apply ih
    · rw [inner_scope_sees_outer (hss s (by simp))]; exact hc
    · intro s' hs'; exact hss s' (by simp [hs'])

example : Nat.repeat Ctx.pop 2
    ([(([] : Scope), [("x", Value.int 2)]), ([("y", Value.int 3)], [("x", Value.int 4)])].foldl
      (fun c' lv => lv.2.foldl (fun c'' d => c''.bind d.1 d.2) (c'.push lv.1))
      (({} : Ctx).bind "x" (.int 1))) = (({} : Ctx).bind "x" (.int 1)) := by
  rfl

end Cel.Props.C11
