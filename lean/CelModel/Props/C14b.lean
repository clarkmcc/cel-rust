import CelModel.Props.C14
/-!
# C14 (second part) — the string tests agree with concatenation and with one another

`t.startsWith(p)` iff `t = p + r`, `t.endsWith(s)` iff `t = r + s`, `t.contains(n)` iff
`t = a + n + b`, for all strings; the agreements of the property (a prefix or suffix is contained,
`n in t` is `t.contains(n)`, `a + b` keeps both operands in place, a contained string is not longer
in `size`) are corollaries, as are the order laws of `contains` (reflexive, transitive, antisymmetric).
-/
namespace Cel.Props.C14

section lists
variable {α : Type} [BEq α] [LawfulBEq α]

theorem isPrefixOf_iff (p t : List α) : isPrefixOf p t = true ↔ ∃ r, t = p ++ r := by
  induction p generalizing t with
  | nil => simp [isPrefixOf]
  | cons a as ih =>
    cases t with
    | nil => simp [isPrefixOf]
    | cons b bs =>
      simp only [isPrefixOf, Bool.and_eq_true, beq_iff_eq, ih, List.cons_append, List.cons.injEq]
      constructor
      · rintro ⟨rfl, r, rfl⟩; exact ⟨r, rfl, rfl⟩
      · rintro ⟨r, rfl, rfl⟩; exact ⟨rfl, r, rfl⟩

theorem isSuffixOf_iff (s t : List α) : isSuffixOf s t = true ↔ ∃ r, t = r ++ s := by
  unfold isSuffixOf
  rw [isPrefixOf_iff]
  constructor
  · rintro ⟨r, h⟩
    refine ⟨r.reverse, ?_⟩
    have := congrArg List.reverse h
    simpa using this
  · rintro ⟨r, rfl⟩
    exact ⟨r.reverse, by simp⟩

theorem isInfixOf_iff (n t : List α) : isInfixOf n t = true ↔ ∃ a b, t = a ++ n ++ b := by
  induction t with
  | nil =>
    simp only [isInfixOf, List.isEmpty_iff]
    constructor
    · rintro rfl; exact ⟨[], [], rfl⟩
    · rintro ⟨a, b, h⟩
      have := congrArg List.length h
      simp at this
      exact List.eq_nil_of_length_eq_zero (by omega)
  | cons c cs ih =>
    simp only [isInfixOf, Bool.or_eq_true, isPrefixOf_iff, ih]
    constructor
    · rintro (⟨r, h⟩ | ⟨a, b, h⟩)
      · exact ⟨[], r, by simpa using h⟩
      · exact ⟨c :: a, b, by simp [h]⟩
    · rintro ⟨a, b, h⟩
      cases a with
      | nil => exact .inl ⟨b, by simpa using h⟩
      | cons x a =>
        simp only [List.cons_append, List.cons.injEq] at h
        exact .inr ⟨a, b, h.2⟩

end lists

theorem startsWith_iff_concat (ctx : Ctx) (t p : Str) :
    applyBuiltin ctx .startsWith [.str t, .str p] = .ok (.bool true) ↔ ∃ r, t = p ++ r := by
  simp [applyBuiltin, isPrefixOf_iff]

theorem endsWith_iff_concat (ctx : Ctx) (t s : Str) :
    applyBuiltin ctx .endsWith [.str t, .str s] = .ok (.bool true) ↔ ∃ r, t = r ++ s := by
  simp [applyBuiltin, isSuffixOf_iff]

theorem contains_str_iff_concat (ctx : Ctx) (t n : Str) :
    applyBuiltin ctx .contains [.str t, .str n] = .ok (.bool true) ↔ ∃ a b, t = a ++ n ++ b := by
  simp [applyBuiltin, containsFn, isInfixOf_iff]

/-- the three string tests never fail and never panic on strings: always a boolean -/
theorem string_tests_total (ctx : Ctx) (t x : Str) :
    (∃ b, applyBuiltin ctx .startsWith [.str t, .str x] = .ok (.bool b)) ∧
    (∃ b, applyBuiltin ctx .endsWith [.str t, .str x] = .ok (.bool b)) ∧
    (∃ b, applyBuiltin ctx .contains [.str t, .str x] = .ok (.bool b)) ∧
    (∃ b, inOp (.str x) (.str t) = .ok (.bool b)) := by
  simp [applyBuiltin, containsFn, inOp]

theorem in_str_is_contains (ctx : Ctx) (t n : Str) :
    inOp (.str n) (.str t) = applyBuiltin ctx .contains [.str t, .str n] := by
  simp [applyBuiltin, containsFn, inOp]

theorem startsWith_implies_contains (ctx : Ctx) (t p : Str)
    (h : applyBuiltin ctx .startsWith [.str t, .str p] = .ok (.bool true)) :
    applyBuiltin ctx .contains [.str t, .str p] = .ok (.bool true) := by
  rw [startsWith_iff_concat] at h
  rw [contains_str_iff_concat]
  obtain ⟨r, rfl⟩ := h
  exact ⟨[], r, rfl⟩

theorem endsWith_implies_contains (ctx : Ctx) (t s : Str)
    (h : applyBuiltin ctx .endsWith [.str t, .str s] = .ok (.bool true)) :
    applyBuiltin ctx .contains [.str t, .str s] = .ok (.bool true) := by
  rw [endsWith_iff_concat] at h
  rw [contains_str_iff_concat]
  obtain ⟨r, rfl⟩ := h
  exact ⟨r, [], by simp⟩

theorem concat_str_keeps_operands (ctx : Ctx) (a b : Str) :
    arith .add (.str a) (.str b) = .ok (.str (a ++ b)) ∧
    applyBuiltin ctx .startsWith [.str (a ++ b), .str a] = .ok (.bool true) ∧
    applyBuiltin ctx .endsWith [.str (a ++ b), .str b] = .ok (.bool true) ∧
    applyBuiltin ctx .contains [.str (a ++ b), .str a] = .ok (.bool true) ∧
    applyBuiltin ctx .contains [.str (a ++ b), .str b] = .ok (.bool true) := by
  refine ⟨by simp [arith], ?_, ?_, ?_, ?_⟩
  · exact (startsWith_iff_concat ctx _ _).2 ⟨b, rfl⟩
  · exact (endsWith_iff_concat ctx _ _).2 ⟨a, rfl⟩
  · exact (contains_str_iff_concat ctx _ _).2 ⟨[], b, rfl⟩
  · exact (contains_str_iff_concat ctx _ _).2 ⟨a, [], by simp⟩

/-- every string starts with, ends with and contains itself and the empty string -/
theorem string_tests_reflexive (ctx : Ctx) (t : Str) :
    applyBuiltin ctx .startsWith [.str t, .str t] = .ok (.bool true) ∧
    applyBuiltin ctx .endsWith [.str t, .str t] = .ok (.bool true) ∧
    applyBuiltin ctx .contains [.str t, .str t] = .ok (.bool true) ∧
    applyBuiltin ctx .startsWith [.str t, .str []] = .ok (.bool true) ∧
    applyBuiltin ctx .endsWith [.str t, .str []] = .ok (.bool true) ∧
    applyBuiltin ctx .contains [.str t, .str []] = .ok (.bool true) := by
  refine ⟨?_, ?_, ?_, ?_, ?_, ?_⟩
  · exact (startsWith_iff_concat ctx _ _).2 ⟨[], by simp⟩
  · exact (endsWith_iff_concat ctx _ _).2 ⟨[], by simp⟩
  · exact (contains_str_iff_concat ctx _ _).2 ⟨[], [], by simp⟩
  · exact (startsWith_iff_concat ctx _ _).2 ⟨t, by simp⟩
  · exact (endsWith_iff_concat ctx _ _).2 ⟨t, by simp⟩
  · exact (contains_str_iff_concat ctx _ _).2 ⟨[], t, by simp⟩

/-- a contained string is never longer than its container, in the unit `size` reports -/
theorem contains_size_le (ctx : Ctx) (t n : Str)
    (h : applyBuiltin ctx .contains [.str t, .str n] = .ok (.bool true)) :
    strSize n ≤ strSize t := by
  rw [contains_str_iff_concat] at h
  obtain ⟨a, b, rfl⟩ := h
  rw [utf8_size_append, utf8_size_append]
  omega

theorem contains_trans (ctx : Ctx) (t m n : Str)
    (h1 : applyBuiltin ctx .contains [.str t, .str m] = .ok (.bool true))
    (h2 : applyBuiltin ctx .contains [.str m, .str n] = .ok (.bool true)) :
    applyBuiltin ctx .contains [.str t, .str n] = .ok (.bool true) := by
  rw [contains_str_iff_concat] at *
  obtain ⟨a, b, rfl⟩ := h1
  obtain ⟨c, d, rfl⟩ := h2
  exact ⟨a ++ c, d ++ b, by simp⟩

theorem contains_antisymm (ctx : Ctx) (t n : Str)
    (h1 : applyBuiltin ctx .contains [.str t, .str n] = .ok (.bool true))
    (h2 : applyBuiltin ctx .contains [.str n, .str t] = .ok (.bool true)) : t = n := by
  rw [contains_str_iff_concat] at *
  obtain ⟨a, b, h1⟩ := h1
  obtain ⟨c, d, h2⟩ := h2
  have l1 := congrArg List.length h1
  have l2 := congrArg List.length h2
  simp only [List.length_append] at l1 l2
  have ha : a = [] := List.eq_nil_of_length_eq_zero (by omega)
  have hb : b = [] := List.eq_nil_of_length_eq_zero (by omega)
  subst ha hb
  simpa using h1

/-- the `Bytes` arm of `contains`: the same characterisation over byte strings -/
theorem contains_bytes_iff_concat (ctx : Ctx) (t n : List UInt8) :
    applyBuiltin ctx .contains [.bytes t, .bytes n] = .ok (.bool true) ↔ ∃ a b, t = a ++ n ++ b := by
  simp [applyBuiltin, containsFn, isInfixOf_iff]

-- non-vacuity: the hypotheses are met by ordinary strings, and refuted by others
example (ctx : Ctx) :
    applyBuiltin ctx .contains [.str ['h', 'e', 'l', 'l', 'o'], .str ['e', 'l', 'l']] = .ok (.bool true) :=
  (contains_str_iff_concat ctx _ _).2 ⟨['h'], ['o'], rfl⟩
example (ctx : Ctx) :
    applyBuiltin ctx .contains [.str ['h', 'e', 'l'], .str ['l', 'e']] = .ok (.bool false) := by
  simp [applyBuiltin, containsFn, isInfixOf, isPrefixOf]
example (ctx : Ctx) :
    applyBuiltin ctx .endsWith [.str ['h', 'é', 'l', 'l', 'o'], .str ['l', 'l', 'o']] = .ok (.bool true) :=
  (endsWith_iff_concat ctx _ _).2 ⟨['h', 'é'], rfl⟩

end Cel.Props.C14
