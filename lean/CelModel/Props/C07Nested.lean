import CelModel.Props.C07Cost
/-!
# C07 (continued) — nested macros: work is bounded by size × product of the collection sizes

Programs whose macros nest to any depth.  To keep the bound a function of the program text alone
the ranges are list literals; `nodeBound e` (C07Cost) counts every node once, except that condition
and step of a comprehension over an `n`-element literal are counted `n` times: nested macros
multiply, as the property says, and nothing is exponential in the nesting depth of calls.
-/
namespace Cel.Props.C07Cost

mutual
def maxRange : Expr → Nat
  | .lit _ => 0
  | .ident _ => 0
  | .call _ args => maxRangeList args
  | .mcall _ t args => max (maxRange t) (maxRangeList args)
  | .select e _ _ => maxRange e
  | .list es => maxRangeList es
  | .map es => maxRangeEntries es
  | .struct _ _ vs => maxRangeList vs
  | .comp _ range _ init cond step result =>
    max (rangeLen range) (max (maxRange range) (max (maxRange init)
      (max (maxRange cond) (max (maxRange step) (maxRange result)))))
  | .unspecified => 0
def maxRangeList : List Expr → Nat
  | [] => 0
  | e :: es => max (maxRange e) (maxRangeList es)
def maxRangeEntries : List (Expr × Expr) → Nat
  | [] => 0
  | (k, v) :: es => max (maxRange k) (max (maxRange v) (maxRangeEntries es))
end

mutual
def compDepth : Expr → Nat
  | .lit _ => 0
  | .ident _ => 0
  | .call _ args => compDepthList args
  | .mcall _ t args => max (compDepth t) (compDepthList args)
  | .select e _ _ => compDepth e
  | .list es => compDepthList es
  | .map es => compDepthEntries es
  | .struct _ _ vs => compDepthList vs
  | .comp _ range _ init cond step result =>
    max (max (compDepth range) (compDepth init))
      (max (1 + max (compDepth cond) (compDepth step)) (compDepth result))
  | .unspecified => 0
def compDepthList : List Expr → Nat
  | [] => 0
  | e :: es => max (compDepth e) (compDepthList es)
def compDepthEntries : List (Expr × Expr) → Nat
  | [] => 0
  | (k, v) :: es => max (compDepth k) (max (compDepth v) (compDepthEntries es))
end

/-- a program whose macros range over list literals performs at most `nodeBound e` node
evaluations, whatever the context binds and however deep the nesting -/
theorem cost_nested_literal_ranges (e : Expr) (h : litRanges e = true) (ctx : Ctx)
    (hl : CtxLinear ctx) (s : St Value) :
    (eval ctx e s).2.steps ≤ s.steps + nodeBound e :=
  eval_cost_nested e h ctx hl s

/-- a node counts once -/
theorem one_le_pow (M D : Nat) : 1 ≤ 1 * (M + 1) ^ D :=
  Nat.one_mul _ ▸ Nat.pow_pos (Nat.succ_pos M)

theorem add_arith (a : Nat) {b : Nat} (sa : Nat) {sb P : Nat} (ha : a ≤ sa * P) (hb : b ≤ sb * P) :
    a + b ≤ (sa + sb) * P := by
  rw [Nat.add_mul]
  omega

/-- the loop body, repeated at most `M` times, fits in one more factor `M + 1` -/
theorem loop_arith (L M nbc nbs sc ss Q : Nat) (hL : L ≤ M) (hc : nbc ≤ sc * Q)
    (hs : nbs ≤ ss * Q) : L * (nbc + nbs) ≤ (sc + ss) * (Q * (M + 1)) := by
  have h1 : L * (nbc + nbs) ≤ (M + 1) * ((sc + ss) * Q) :=
    Nat.mul_le_mul (by omega) (add_arith _ _ hc hs)
  have h2 : (M + 1) * ((sc + ss) * Q) = (sc + ss) * (Q * (M + 1)) := by
    rw [Nat.mul_comm (M + 1), Nat.mul_assoc]
  omega

theorem comp_arith {nbi nbr loop nbres si sr sc ss sres P : Nat} (hP : 1 ≤ P)
    (hi : nbi ≤ si * P) (hr : nbr ≤ sr * P) (hloop : loop ≤ (sc + ss) * P)
    (hres : nbres ≤ sres * P) :
    1 + nbi + nbr + loop + nbres ≤ (1 + sr + si + sc + ss + sres) * P := by
  rw [Nat.add_mul] at hloop
  rw [Nat.add_mul, Nat.add_mul, Nat.add_mul, Nat.add_mul, Nat.add_mul, Nat.one_mul]
  omega

mutual
/-- the arithmetic bound, monotone in the range bound `M` and the depth bound `D` -/
theorem nodeBound_le_gen : ∀ (e : Expr) (M D : Nat), maxRange e ≤ M → compDepth e ≤ D →
    nodeBound e ≤ e.size * (M + 1) ^ D
  | .lit _, M, D, _, _ => one_le_pow M D
  | .ident _, M, D, _, _ => one_le_pow M D
  | .call _ args, M, D, hM, hD =>
    add_arith 1 1 (one_le_pow M D) (nodeBoundList_le_gen args M D hM hD)
  | .mcall _ t args, M, D, hM, hD =>
    have hM := Nat.max_le.1 hM
    have hD := Nat.max_le.1 hD
    add_arith _ _ (add_arith 1 1 (one_le_pow M D) (nodeBound_le_gen t M D hM.1 hD.1))
      (nodeBoundList_le_gen args M D hM.2 hD.2)
  | .select e _ _, M, D, hM, hD =>
    add_arith 1 1 (one_le_pow M D) (nodeBound_le_gen e M D hM hD)
  | .list es, M, D, hM, hD =>
    add_arith 1 1 (one_le_pow M D) (nodeBoundList_le_gen es M D hM hD)
  | .map es, M, D, hM, hD =>
    add_arith 1 1 (one_le_pow M D) (nodeBoundEntries_le_gen es M D hM hD)
  | .struct _ _ vs, M, D, hM, hD =>
    add_arith 1 1 (one_le_pow M D) (nodeBoundList_le_gen vs M D hM hD)
  | .comp _ range _ init cond step result, M, D, hM, hD => by
    rw [maxRange] at hM
    rw [compDepth] at hD
    simp only [Nat.max_le] at hM hD
    obtain ⟨hM0, hMr, hMi, hMc, hMs, hMres⟩ := hM
    obtain ⟨⟨hDr, hDi⟩, hDcs, hDres⟩ := hD
    rw [nodeBound, Expr.size]
    cases D with
    | zero => omega
    | succ D' =>
      have hDcs' : compDepth cond ≤ D' ∧ compDepth step ≤ D' := by
        rw [← Nat.max_le]; omega
      have hloop := loop_arith (rangeLen range) M (nodeBound cond) (nodeBound step)
        cond.size step.size ((M + 1) ^ D') hM0
        (nodeBound_le_gen cond M D' hMc hDcs'.1) (nodeBound_le_gen step M D' hMs hDcs'.2)
      rw [← Nat.pow_succ] at hloop
      exact comp_arith (Nat.pow_pos (Nat.succ_pos M))
        (nodeBound_le_gen init M (D' + 1) hMi hDi) (nodeBound_le_gen range M (D' + 1) hMr hDr)
        hloop
        (nodeBound_le_gen result M (D' + 1) hMres hDres)
  | .unspecified, M, D, _, _ => one_le_pow M D
theorem nodeBoundList_le_gen : ∀ (es : List Expr) (M D : Nat), maxRangeList es ≤ M →
    compDepthList es ≤ D → nodeBoundList es ≤ sizeList es * (M + 1) ^ D
  | [], _, _, _, _ => Nat.zero_le _
  | e :: es, M, D, hM, hD => by
    rw [maxRangeList, Nat.max_le] at hM
    rw [compDepthList, Nat.max_le] at hD
    rw [nodeBoundList, sizeList]
    exact add_arith _ _ (nodeBound_le_gen e M D hM.1 hD.1)
      (nodeBoundList_le_gen es M D hM.2 hD.2)
theorem nodeBoundEntries_le_gen : ∀ (es : List (Expr × Expr)) (M D : Nat),
    maxRangeEntries es ≤ M → compDepthEntries es ≤ D →
    nodeBoundEntries es ≤ sizeEntries es * (M + 1) ^ D
  | [], _, _, _, _ => Nat.zero_le _
  | (k, v) :: es, M, D, hM, hD => by
    rw [maxRangeEntries, Nat.max_le, Nat.max_le] at hM
    rw [compDepthEntries, Nat.max_le, Nat.max_le] at hD
    rw [nodeBoundEntries, sizeEntries]
    exact add_arith _ _
      (add_arith _ _ (nodeBound_le_gen k M D hM.1 hD.1)
        (nodeBound_le_gen v M D hM.2.1 hD.2.1))
      (nodeBoundEntries_le_gen es M D hM.2.2 hD.2.2)
end

/-- the closed form: size of the program times (largest literal range + 1) to the power of the macro
nesting depth.  Coarser than the property's "size times the product of the collection sizes": on
`outer` below (ranges 2 and 3) the factor is `4 ^ 2`, the product 6. -/
theorem nodeBound_le_size_times_product (e : Expr) :
    nodeBound e ≤ e.size * (maxRange e + 1) ^ compDepth e :=
  nodeBound_le_gen e _ _ (Nat.le_refl _) (Nat.le_refl _)

/-- the number of host-function invocations (log entries) of a literal-range program is within the
same closed bound -/
theorem host_calls_nested_bound (e : Expr) (h : litRanges e = true) (ctx : Ctx)
    (hl : CtxLinear ctx) (s : St Value) :
    (eval ctx e s).2.log.length - s.log.length ≤ e.size * (maxRange e + 1) ^ compDepth e := by
  have h1 := log_growth_le_steps e ctx s
  have h2 := cost_nested_literal_ranges e h ctx hl s
  have h3 := nodeBound_le_size_times_product e
  omega

/-! non-vacuity: `[1, 2].map(x, [3, 4, 5].map(y, x + y))`-shaped tree: depth 2, ranges 2 and 3 -/
def inner : Expr := .comp "y" (.list [.lit (.int 3), .lit (.int 4), .lit (.int 5)]) "@r" (.list [])
  (.lit (.bool true)) (.call "_+_" [.ident "@r", .list [.call "_+_" [.ident "x", .ident "y"]]])
  (.ident "@r")
def outer : Expr := .comp "x" (.list [.lit (.int 1), .lit (.int 2)]) "@r" (.list [])
  (.lit (.bool true)) (.call "_+_" [.ident "@r", .list [inner]]) (.ident "@r")
example : litRanges outer = true ∧ compDepth outer = 2 ∧ maxRange outer = 3 := by decide

end Cel.Props.C07Cost
