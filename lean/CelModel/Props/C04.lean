import CelModel.Lemmas.NumLemmas
import CelModel.Lemmas.Digits
import CelModel.Lemmas.ParserCalls
import CelModel.Lemmas.MacrosLemmas
/-!
# C04 — parsing preserves precedence, associativity and grouping

About the parser model `Parser.parseTop` (the grammar of `CEL.g4` + the visitor of
`parser.rs`; tied to the real ANTLR parser by the correspondence check).
-/
namespace Cel.Props.C04
open Cel.Parser Cel.Lemmas.ParserSteps Cel.Lemmas.ParserMin Cel.Lemmas.ParserCalls

/-! ## chains of `&&` / `||` keep their operands in source order -/

/-- the operands of a (re-associated) chain of `op`, left to right; the fuel bounds the depth looked
into (a tree over `n` operands is less than `n` operators deep) -/
def leaves (op : String) : (fuel : Nat) → Expr → List Expr
  | 0, e => [e]
  | fuel + 1, .call f [a, b] => if f == op then leaves op fuel a ++ leaves op fuel b else [.call f [a, b]]
  | _, e => [e]

/-- not itself an application of `op` (so that `leaves` does not look inside it) -/
def notOp (op : String) : Expr → Bool
  | .call f [_, _] => !(f == op)
  | _ => true

theorem leaves_notOp {op : String} {k : Nat} {t : Expr} (h : notOp op t = true) : leaves op k t = [t] := by
  cases k with
  | zero => simp [leaves]
  | succ k =>
    unfold leaves
    split <;> simp_all [notOp]

theorem leaves_node (op : String) (k : Nat) (a b : Expr) :
    leaves op (k + 1) (.call op [a, b]) = leaves op k a ++ leaves op k b := by
  simp [leaves]

theorem seg_one {terms : List Expr} {i : Nat} (h : i < terms.length) :
    (terms.drop i).take 1 = [terms.toArray[i]!] := by
  simp [h, List.take_one]

theorem seg_append (terms : List Expr) (lo a b : Nat) :
    (terms.drop lo).take a ++ (terms.drop (lo + a)).take b = (terms.drop lo).take (a + b) := by
  rw [List.take_add, List.drop_drop]

/-- the tree over the operators `lo … hi` lists the operands `lo … hi + 1`: those up to the middle
operator from the left child, the others from the right child -/
theorem bt_leaves (op : String) (terms : List Expr) (hno : ∀ t ∈ terms, notOp op t = true) :
    ∀ fuel lo hi k, lo ≤ hi → hi + 1 < terms.length → hi - lo < fuel → hi - lo < k →
      leaves op k (balancedTree op terms.toArray fuel lo hi) = (terms.drop lo).take (hi - lo + 2) := by
  have hleaf : ∀ i, i < terms.length → ∀ j, leaves op j terms.toArray[i]! = (terms.drop i).take 1 := by
    intro i hi j
    rw [seg_one hi]
    exact leaves_notOp (hno _ (by simp [hi]))
  intro fuel
  induction fuel with
  | zero => intro lo hi k _ _ hf; omega
  | succ f ih =>
    intro lo hi k hle hlen hf hk
    obtain ⟨k, rfl⟩ : ∃ k', k = k' + 1 := ⟨k - 1, by omega⟩
    rw [balancedTree_succ, leaves_node]
    -- only `lo ≤ mid ≤ hi` matters from here on: keep the division away from `omega`
    obtain ⟨mid, hmid⟩ : ∃ mid, mid = (lo + hi + 1) / 2 := ⟨_, rfl⟩
    have h1 : lo ≤ mid := by omega
    have h2 : mid ≤ hi := by omega
    rw [← hmid]
    clear hmid
    have hL : leaves op k (if (mid == lo) = true then terms.toArray[mid]!
        else balancedTree op terms.toArray f lo (mid - 1)) = (terms.drop lo).take (mid - lo + 1) := by
      split
      · rename_i h
        have : mid = lo := by simpa using h
        subst this
        rw [hleaf _ (by omega), Nat.sub_self]
      · rename_i h
        have : mid ≠ lo := by simpa using h
        rw [ih lo (mid - 1) k (by omega) (by omega) (by omega) (by omega),
          show mid - 1 - lo + 2 = mid - lo + 1 by omega]
    have hR : leaves op k (if (mid == hi) = true then terms.toArray[mid + 1]!
        else balancedTree op terms.toArray f (mid + 1) hi) = (terms.drop (mid + 1)).take (hi - mid + 1) := by
      split
      · rename_i h
        have : mid = hi := by simpa using h
        subst this
        rw [hleaf _ (by omega), Nat.sub_self]
      · rename_i h
        have : mid ≠ hi := by simpa using h
        rw [ih (mid + 1) hi k (by omega) (by omega) (by omega) (by omega),
          show hi - (mid + 1) + 2 = hi - mid + 1 by omega]
    rw [hL, hR, ← show lo + (mid - lo + 1) = mid + 1 by omega, seg_append,
      show mid - lo + 1 + (hi - mid + 1) = hi - lo + 2 by omega]

/-- the tree `LogicManager::expr` builds from the collected operands of a chain of `&&` / `||`,
whatever their number: its leaves are exactly `terms`, in order, when no operand is itself an
application of `op` (`leaves` would look inside it).  That a token chain is read into `terms` is not
part of the statement. -/
theorem balanced_tree_inorder (op : String) (terms : List Expr) (hne : terms ≠ [])
    (hno : ∀ t ∈ terms, notOp op t = true) :
    leaves op (terms.length + 1) (logicExpr op terms) = terms := by
  match terms, hne, hno with
  | [t], _, hno =>
    simp only [logicExpr]
    exact leaves_notOp (hno t (by simp))
  | a :: b :: r, _, hno =>
    simp only [logicExpr]
    rw [bt_leaves op (a :: b :: r) hno _ 0 _ _ (Nat.zero_le _) (by simp) (by simp; omega) (by simp; omega)]
    simp

/-! ## prefix operators: an even run cancels, an odd run applies once -/

theorem prefix_not_parity (fuel n : Nat) (hn : 0 < n) (rest : Toks)
    (hrest : runLen "!" rest = 0) :
    parseUnary (fuel + 1) (List.replicate n (.sym "!") ++ rest) =
      (match parseMember fuel rest with
       | some (m, r) => some (if n % 2 == 0 then m else .call "!_" [m], r)
       | none => none) := by
  rw [parseUnary_succ]
  simp only [runLen_replicate, hrest, Nat.add_zero, hn, if_true, List.drop_left' List.length_replicate, gt_iff_lt]
  rfl

theorem prefix_neg_parity (fuel n : Nat) (hn : 1 < n) (rest : Toks)
    (hrest : runLen "-" rest = 0) :
    parseUnary (fuel + 1) (List.replicate n (.sym "-") ++ rest) =
      (match parseMember fuel rest with
       | some (m, r) => some (if n % 2 == 0 then m else .call "-_" [m], r)
       | none => none) := by
  rw [parseUnary_succ]
  have h0 : runLen "!" (List.replicate n (.sym "-") ++ rest) = 0 :=
    runLen_other _ _ (by decide) n (by omega) rest
  have hn1 : (n == 1) = false := by simp; omega
  have hn0 : 0 < n := by omega
  simp only [runLen_replicate, hrest, Nat.add_zero, h0, List.drop_left' List.length_replicate, gt_iff_lt, Nat.lt_irrefl,
    if_false, hn0, if_true, hn1, Bool.false_and, Bool.false_eq_true]
  rfl

/-- a single `-` before an int token is not consumed as the operator `-_`: the unary level hands both
tokens on.  That they are then read as one signed literal is the first arm of `parsePrimary`, not
part of this statement. -/
theorem single_minus_before_int_is_sign (fuel : Nat) (t : Str) (rest : Toks) :
    parseUnary (fuel + 1) (.sym "-" :: .int t :: rest) = parseMember fuel (.sym "-" :: .int t :: rest) := by
  rw [parseUnary_succ]
  simp [runLen]

/-! ## a macro call expands around, never into, its receiver and argument expressions -/

inductive Occurs (sub : Expr) : Expr → Prop
  | here : Occurs sub sub
  | callArg (f : String) (args : List Expr) (a : Expr) : a ∈ args → Occurs sub a → Occurs sub (.call f args)
  | mcallTarget (f : String) (t : Expr) (args : List Expr) : Occurs sub t → Occurs sub (.mcall f t args)
  | mcallArg (f : String) (t : Expr) (args : List Expr) (a : Expr) : a ∈ args → Occurs sub a → Occurs sub (.mcall f t args)
  | listElem (es : List Expr) (a : Expr) : a ∈ es → Occurs sub a → Occurs sub (.list es)
  | select (e : Expr) (f : Str) (t : Bool) : Occurs sub e → Occurs sub (.select e f t)
  | compRange (iv av : String) (r i c s res : Expr) : Occurs sub r → Occurs sub (.comp iv r av i c s res)
  | compStep (iv av : String) (r i c s res : Expr) : Occurs sub s → Occurs sub (.comp iv r av i c s res)

theorem occ_arg {sub : Expr} {f : String} {args : List Expr} (h : sub ∈ args) : Occurs sub (.call f args) :=
  Occurs.callArg f args sub h Occurs.here

/-- inside `_+_(@result, [a])`, the step of `map` -/
theorem occ_appended (a : Expr) : Occurs a (.call "_+_" [Macros.accuIdent, .list [a]]) :=
  .callArg _ _ (.list [a]) (by simp) (.listElem _ a (by simp) .here)

/-- every comprehension macro: the receiver is the range, unchanged; every non-binder argument
occurs intact inside the loop step; the binder becomes the iteration variable -/
theorem macro_expansion_preserves_arguments (f : String) (t : Expr) (args : List Expr) (e : Expr)
    (h : Macros.expand f (some t) args = .ok e) :
    ∃ v iv av init cond step res, args.head? = some (.ident v) ∧
      e = .comp iv t av init cond step res ∧ iv = v ∧
      ∀ a ∈ args.tail, Occurs a step := by
  refine Macros.expand_ok_elim
    (P := fun target args e => ∀ t, target = some t → ∃ v iv av init cond step res,
      args.head? = some (.ident v) ∧ e = .comp iv t av init cond step res ∧ iv = v ∧
      ∀ a ∈ args.tail, Occurs a step)
    ?has ?all ?exist ?existsOne ?map ?filter ?mapFilter h t rfl
  case has => exact fun _ _ _ _ ht => nomatch ht
  case all =>
    rintro t n p _ ⟨⟩
    exact ⟨n, _, _, _, _, _, _, rfl, rfl, rfl, List.forall_mem_singleton.2 (occ_arg (by simp))⟩
  case exist =>
    rintro t n p _ ⟨⟩
    exact ⟨n, _, _, _, _, _, _, rfl, rfl, rfl, List.forall_mem_singleton.2 (occ_arg (by simp))⟩
  case existsOne =>
    rintro t n p _ ⟨⟩
    exact ⟨n, _, _, _, _, _, _, rfl, rfl, rfl, List.forall_mem_singleton.2 (occ_arg (by simp))⟩
  case map =>
    rintro t n p _ ⟨⟩
    exact ⟨n, _, _, _, _, _, _, rfl, rfl, rfl, List.forall_mem_singleton.2 (occ_appended p)⟩
  case filter =>
    rintro t n p _ ⟨⟩
    exact ⟨n, _, _, _, _, _, _, rfl, rfl, rfl, List.forall_mem_singleton.2 (occ_arg (by simp))⟩
  case mapFilter =>
    rintro t n p fn _ ⟨⟩
    refine ⟨n, _, _, _, _, _, _, rfl, rfl, rfl, ?_⟩
    intro a ha
    rcases List.mem_cons.mp ha with rfl | ha
    · exact occ_arg (by simp)
    · cases List.mem_singleton.mp ha
      exact .callArg _ _ _ (List.mem_cons_of_mem _ (List.mem_cons_self ..)) (occ_appended fn)

/-- `has(e.f)` only sets the test flag of the selection it is given -/
theorem has_expansion (a e : Expr) (h : Macros.expand "has" none [a] = .ok e) :
    ∃ operand field t, a = .select operand field t ∧ e = .select operand field true := by
  refine Macros.expand_ok_elim (P := fun _ args e => ∀ a, args = [a] →
    ∃ operand field t, a = .select operand field t ∧ e = .select operand field true)
    ?has ?_ ?_ ?_ ?_ ?_ ?_ h a rfl
  case has =>
    rintro o fld t _ ⟨⟩
    exact ⟨o, fld, t, rfl, rfl⟩
  -- the other six take two or three arguments
  all_goals
    intros
    rename_i h
    cases h

/-- anything that is not one of the macro shapes is left alone (an ordinary call) -/
theorem non_macro_names_untouched (f : String) (target : Option Expr) (args : List Expr)
    (hf : f ≠ "has" ∧ f ≠ "all" ∧ f ≠ "exists" ∧ f ≠ "exists_one" ∧ f ≠ "existsOne" ∧ f ≠ "map" ∧ f ≠ "filter") :
    Macros.expand f target args = .notMacro := by
  unfold Macros.expand
  split <;> simp [*]

/-! ## fully parenthesised rendering parses back to the same tree

`Src.render` writes tokens and the theorem is `parseTop t.render = some t.denote`: the lexer takes no
part in it, nor in the minimal round trip of `Props/C04Min.lean`. -/

/-- source-level trees: identifiers, non-negative integer numerals, the operators, member selection
and indexing, function calls in both styles, list and map literals.  Not among them: the other
literals (a negative numeral is `.neg (.num n)` and denotes a call of `-_`), names with a leading
dot, back-quoted field names, message literals, macro calls (`FnName`). -/
inductive Src where
  | ident (n : Str)
  | num (n : Nat)
  | bin (sym : String) (opName : String) (a b : Src)   -- a binary operator token and its function name
  | not (a : Src)
  | neg (a : Src)
  | cond (c a b : Src)
  | index (a i : Src)
  | select (a : Src) (f : Str)
  | call (f : Str) (args : List Src)                   -- `f(a, b, …)`
  | mcall (t : Src) (f : Str) (args : List Src)        -- `t.f(a, b, …)`
  | list (es : List Src)                               -- `[a, b, …]`
  | mapLit (es : List (Src × Src))                     -- `{k: v, …}`
deriving Repr, Inhabited

/-- the binary operator tokens, each with its function name (`binTable_cases` recovers the level) -/
def binTable : List (String × String) :=
  [("||", "_||_"), ("&&", "_&&_"), ("<", "_<_"), ("<=", "_<=_"), (">=", "_>=_"), (">", "_>_"),
   ("==", "_==_"), ("!=", "_!=_"), ("in", "@in"), ("+", "_+_"), ("-", "_-_"), ("*", "_*_"),
   ("/", "_/_"), ("%", "_%_")]

theorem binTable_cases {sym nm : String} (h : (sym, nm) ∈ binTable) :
    (∃ p, 1 ≤ p ∧ p ≤ 2 ∧ sym = ltok p ∧ nm = lname p) ∨
      (∃ p, 3 ≤ p ∧ p ≤ 5 ∧ ops p sym = some nm) := by
  have table : ∀ x ∈ binTable, (x.1 = ltok 1 ∧ x.2 = lname 1) ∨ (x.1 = ltok 2 ∧ x.2 = lname 2) ∨
      ops 3 x.1 = some x.2 ∨ ops 4 x.1 = some x.2 ∨ ops 5 x.1 = some x.2 := by decide +kernel
  rcases table _ h with ⟨rfl, rfl⟩ | ⟨rfl, rfl⟩ | h | h | h
  · exact .inl ⟨1, by decide, by decide, rfl, rfl⟩
  · exact .inl ⟨2, by decide, by decide, rfl, rfl⟩
  · exact .inr ⟨3, by decide, by decide, h⟩
  · exact .inr ⟨4, by decide, by decide, h⟩
  · exact .inr ⟨5, by decide, by decide, h⟩

/-- the names `Macros.expand` reacts to (in some call shape) -/
def macroNames : List String := ["has", "all", "exists", "exists_one", "existsOne", "map", "filter"]

/-- a function name in a call: not the name of a macro — `has(x)`, `r.all(v, p)`, … are expanded (or
rejected) by the parser instead of becoming call nodes.  The seven names are excluded in every call
shape (a little more than necessary: `has(a, b)`, `all(x)` are ordinary calls).  The first conjunct
says when the text would be lexed as an `.ident` token; the theorems start from tokens and use only
the second. -/
def FnName (f : Str) : Prop :=
  (f ≠ [] ∧ f ≠ "true".toList ∧ f ≠ "false".toList ∧ f ≠ "null".toList ∧ f ≠ "in".toList) ∧
    String.ofList f ∉ macroNames

instance (f : Str) : Decidable (FnName f) := by unfold FnName; infer_instance

theorem FnName.notMacro {f : Str} (h : FnName f) {target : Option Expr} {args : List Expr} :
    Macros.expand (String.ofList f) target args = .notMacro := by
  apply non_macro_names_untouched
  have := h.2
  simp only [macroNames, List.mem_cons, List.mem_nil_iff, or_false, not_or] at this
  exact this

mutual
/-- well-formed.  The conditions on the spelling of a name (`.ident`, `.select`, the first conjunct of
`FnName`) say when its text would be lexed as an `.ident` token; the round trips start from the
token list, not from text, and do not use them: that the lexer returns these tokens is not proved. -/
def Src.WF : Src → Prop
  | .ident n => n ≠ [] ∧ n ≠ "true".toList ∧ n ≠ "false".toList ∧ n ≠ "null".toList ∧ n ≠ "in".toList
  | .num n => (n : Int) ≤ i64Max
  | .bin sym nm a b => (sym, nm) ∈ binTable ∧ a.WF ∧ b.WF
  | .not a => a.WF
  | .neg a => a.WF
  | .cond c a b => c.WF ∧ a.WF ∧ b.WF
  | .index a i => a.WF ∧ i.WF
  | .select a f => a.WF ∧ f ≠ []
  | .call f args => FnName f ∧ Src.WFList args
  | .mcall t f args => t.WF ∧ FnName f ∧ Src.WFList args
  | .list es => Src.WFList es
  | .mapLit es => Src.WFEntries es
def Src.WFList : List Src → Prop
  | [] => True
  | a :: as => a.WF ∧ Src.WFList as
def Src.WFEntries : List (Src × Src) → Prop
  | [] => True
  | (k, v) :: es => k.WF ∧ v.WF ∧ Src.WFEntries es
end

theorem Src.wfList_iff (as : List Src) : Src.WFList as ↔ ∀ a ∈ as, a.WF := by
  induction as with
  | nil => simp [Src.WFList]
  | cons a as ih => simp [Src.WFList, ih]

theorem Src.wfEntries_iff (es : List (Src × Src)) : Src.WFEntries es ↔ ∀ p ∈ es, p.1.WF ∧ p.2.WF := by
  induction es with
  | nil => simp [Src.WFEntries]
  | cons p es ih => obtain ⟨k, v⟩ := p; simp [Src.WFEntries, ih, and_assoc]

mutual
def Src.denote : Src → Expr
  | .ident n => .ident (String.ofList n)
  | .num n => .lit (.int n)
  | .bin _ nm a b => .call nm [a.denote, b.denote]
  | .not a => .call "!_" [a.denote]
  | .neg a => .call "-_" [a.denote]
  | .cond c a b => .call "_?_:_" [c.denote, a.denote, b.denote]
  | .index a i => .call "_[_]" [a.denote, i.denote]
  | .select a f => .select a.denote f false
  | .call f args => .call (String.ofList f) (Src.denoteList args)
  | .mcall t f args => .mcall (String.ofList f) t.denote (Src.denoteList args)
  | .list es => .list (Src.denoteList es)
  | .mapLit es => .map (Src.denoteEntries es)
/-- `as.map denote` -/
def Src.denoteList : List Src → List Expr
  | [] => []
  | a :: as => a.denote :: Src.denoteList as
/-- `es.map fun (k, v) => (k.denote, v.denote)` -/
def Src.denoteEntries : List (Src × Src) → List (Expr × Expr)
  | [] => []
  | (k, v) :: es => (k.denote, v.denote) :: Src.denoteEntries es
end

theorem Src.denoteList_eq_map (as : List Src) : Src.denoteList as = as.map Src.denote := by
  induction as with
  | nil => simp [Src.denoteList]
  | cons a as ih => simp [Src.denoteList, ih]

theorem Src.denoteEntries_eq_map (es : List (Src × Src)) :
    Src.denoteEntries es = es.map fun p => (p.1.denote, p.2.denote) := by
  induction es with
  | nil => simp [Src.denoteEntries]
  | cons p es ih => obtain ⟨k, v⟩ := p; simp [Src.denoteEntries, ih]

mutual
/-- fully parenthesised token rendering: every compound operator node is wrapped in parentheses,
the operand of a prefix operator and the target of a suffix (selection, index, method call) are
parenthesised too; arguments, elements and entries are separated by commas, without a trailing
comma (`sepList`, `sepEntries`: `CelModel/Lemmas/ParserCalls.lean`) -/
def Src.render : Src → Toks
  | .ident n => [.ident n]
  | .num n => [.int (natToDec n)]
  | .bin sym _ a b => [.sym "("] ++ a.render ++ [.sym sym] ++ b.render ++ [.sym ")"]
  | .not a => [.sym "(", .sym "!", .sym "("] ++ a.render ++ [.sym ")", .sym ")"]
  | .neg a => [.sym "(", .sym "-", .sym "("] ++ a.render ++ [.sym ")", .sym ")"]
  | .cond c a b => [.sym "("] ++ c.render ++ [.sym "?"] ++ a.render ++ [.sym ":"] ++ b.render ++ [.sym ")"]
  | .index a i => [.sym "(", .sym "("] ++ a.render ++ [.sym ")", .sym "["] ++ i.render ++ [.sym "]", .sym ")"]
  | .select a f => [.sym "(", .sym "("] ++ a.render ++ [.sym ")", .sym ".", .ident f, .sym ")"]
  | .call f args => [.ident f, .sym "("] ++ sepList (Src.renderEach args) ++ [.sym ")"]
  | .mcall t f args =>
    [.sym "(", .sym "("] ++ t.render ++ [.sym ")", .sym ".", .ident f, .sym "("]
      ++ sepList (Src.renderEach args) ++ [.sym ")", .sym ")"]
  | .list es => [.sym "["] ++ sepList (Src.renderEach es) ++ [.sym "]"]
  | .mapLit es => [.sym "{"] ++ sepEntries (Src.renderEntries es) ++ [.sym "}"]
/-- `as.map render` -/
def Src.renderEach : List Src → List Toks
  | [] => []
  | a :: as => a.render :: Src.renderEach as
/-- `es.map fun (k, v) => (k.render, v.render)` -/
def Src.renderEntries : List (Src × Src) → List (Toks × Toks)
  | [] => []
  | (k, v) :: es => (k.render, v.render) :: Src.renderEntries es
end

theorem Src.length_renderEach (as : List Src) : (Src.renderEach as).length = as.length := by
  induction as with
  | nil => rfl
  | cons a as ih => rw [Src.renderEach, List.length_cons, List.length_cons, ih]

theorem Src.length_renderEntries (es : List (Src × Src)) : (Src.renderEntries es).length = es.length := by
  induction es with
  | nil => rfl
  | cons p es ih => rw [Src.renderEntries, List.length_cons, List.length_cons, ih]

mutual
/-- number of compound nodes, every argument / element / entry of a call or literal counting
once more (the fuel needed is proportional to it) -/
def sz : Src → Nat
  | .ident _ => 0
  | .num _ => 0
  | .bin _ _ a b => sz a + sz b + 1
  | .not a => sz a + 1
  | .neg a => sz a + 1
  | .cond c a b => sz c + sz a + sz b + 1
  | .index a i => sz a + sz i + 1
  | .select a _ => sz a + 1
  | .call _ args => szList args + args.length + 1
  | .mcall t _ args => sz t + szList args + args.length + 1
  | .list es => szList es + es.length + 1
  | .mapLit es => szEntries es + es.length + 1
def szList : List Src → Nat
  | [] => 0
  | a :: as => sz a + szList as
def szEntries : List (Src × Src) → Nat
  | [] => 0
  | (k, v) :: es => sz k + sz v + szEntries es
end

mutual
theorem sz_le_render : (t : Src) → sz t ≤ t.render.length
  | .ident _ => by simp [sz]
  | .num _ => by simp [sz]
  | .bin _ _ a b => by
    have := sz_le_render a
    have := sz_le_render b
    simp only [sz, Src.render, List.length_append, List.length_cons, List.length_nil]
    omega
  | .not a => by
    have := sz_le_render a
    simp only [sz, Src.render, List.length_append, List.length_cons, List.length_nil]
    omega
  | .neg a => by
    have := sz_le_render a
    simp only [sz, Src.render, List.length_append, List.length_cons, List.length_nil]
    omega
  | .cond c a b => by
    have := sz_le_render c
    have := sz_le_render a
    have := sz_le_render b
    simp only [sz, Src.render, List.length_append, List.length_cons, List.length_nil]
    omega
  | .index a i => by
    have := sz_le_render a
    have := sz_le_render i
    simp only [sz, Src.render, List.length_append, List.length_cons, List.length_nil]
    omega
  | .select a _ => by
    have := sz_le_render a
    simp only [sz, Src.render, List.length_append, List.length_cons, List.length_nil]
    omega
  | .call _ args => by
    have := szList_le args
    have := length_sepTail_le (Src.renderEach args)
    simp only [sz, Src.render, List.length_append, List.length_cons, List.length_nil]
    omega
  | .mcall t _ args => by
    have := sz_le_render t
    have := szList_le args
    have := length_sepTail_le (Src.renderEach args)
    simp only [sz, Src.render, List.length_append, List.length_cons, List.length_nil]
    omega
  | .list es => by
    have := szList_le es
    have := length_sepTail_le (Src.renderEach es)
    simp only [sz, Src.render, List.length_append, List.length_cons, List.length_nil]
    omega
  | .mapLit es => by
    have := szEntries_le es
    have := length_sepEntTail_le (Src.renderEntries es)
    simp only [sz, Src.render, List.length_append, List.length_cons, List.length_nil]
    omega
theorem szList_le : (as : List Src) → szList as + as.length ≤ (sepTail (Src.renderEach as)).length
  | [] => by simp [szList]
  | a :: as => by
    have := sz_le_render a
    have := szList_le as
    simp only [szList, Src.renderEach, sepTail, List.length_append, List.length_cons]
    omega
theorem szEntries_le : (es : List (Src × Src)) →
    szEntries es + es.length ≤ (sepEntTail (Src.renderEntries es)).length
  | [] => by simp [szEntries]
  | (k, v) :: es => by
    have := sz_le_render k
    have := sz_le_render v
    have := szEntries_le es
    simp only [szEntries, Src.renderEntries, sepEntTail, List.length_append, List.length_cons]
    omega
end

theorem member_num (n : Nat) (h : (n : Int) ≤ i64Max) :
    Member 1 0 [.int (natToDec n)] (.lit (.int n)) :=
  member_int (by simp [Lemmas.Digits.intLiteral_natToDec, inI64_natCast, h])

mutual
/-- every rendered tree is an atom or stands in parentheses: a member expression without suffix.
Fuel: an atom needs 1 unit at the member level; a compound node at most 19 more than its parts:
a pair of parentheses costs 9 (7 from the member level down to `parseExpr`, 2 for the pair), once
around the node and once around a wrapped operand, and the suffix step 1 (`.select`, the worst case). -/
theorem render_member : (t : Src) → t.WF → Member (20 * sz t + 1) 0 t.render t.denote
  | .ident n, _ => member_ident n
  | .num n, h => member_num n h
  | .bin sym nm a b, ⟨hop, ha, hb⟩ => by
    have iha := render_member a ha
    have ihb := render_member b hb
    simp only [Src.render, Src.denote]
    rcases binTable_cases hop with ⟨p, h1, h2, rfl, rfl⟩ | ⟨p, h3, h5, hp⟩
    · have hX := parsesAt_logic h1 h2 (iha.parsesAt (p := p + 1) (by omega)) (ihb.parsesAt (p := p + 1) (by omega))
      have hM := (member_paren (hX.expr (by omega))).mono (f' := 20 * sz (.bin (ltok p) (lname p) a b) + 1)
        (by simp only [sz]; omega) (Nat.le_refl _)
      simpa only [List.append_assoc] using hM
    · have hX := parsesAt_bin h3 h5 (iha.parsesAt (p := p + 1) (by omega)) (ihb.parsesAt (p := p + 1) (by omega)) hp
      have hM := (member_paren (hX.expr (by omega))).mono (f' := 20 * sz (.bin sym nm a b) + 1)
        (by simp only [sz]; omega) (Nat.le_refl _)
      simpa only [List.append_assoc] using hM
  | .not a, h => by
    have hX := (render_member a h).paren.not
    have hM := (member_paren (hX.expr (by omega))).mono (f' := 20 * sz (.not a) + 1)
      (by simp only [sz]; omega) (Nat.le_refl _)
    simpa only [Src.render, Src.denote, List.append_assoc, List.cons_append, List.nil_append] using hM
  | .neg a, h => by
    have hX := (render_member a h).paren.neg (fun d r he => by cases he)
    have hM := (member_paren (hX.expr (by omega))).mono (f' := 20 * sz (.neg a) + 1)
      (by simp only [sz]; omega) (Nat.le_refl _)
    simpa only [Src.render, Src.denote, List.append_assoc, List.cons_append, List.nil_append] using hM
  | .cond c a b, ⟨hc, ha, hb⟩ => by
    have hX := parsesAt_cond ((render_member c hc).parsesAt (p := 1) (by omega))
      ((render_member a ha).parsesAt (p := 1) (by omega)) ((render_member b hb).parsesAt (Nat.zero_le 7))
    have hM := (member_paren hX).mono (f' := 20 * sz (.cond c a b) + 1) (by simp only [sz]; omega) (Nat.le_refl _)
    simpa only [Src.render, Src.denote, List.append_assoc] using hM
  | .index a i, ⟨ha, hi⟩ => by
    have hX := (render_member a ha).paren.index
      ((render_member i hi).parsesAt (Nat.zero_le 7))
    have hM := hX.paren.mono (f' := 20 * sz (.index a i) + 1)
      (by simp only [sz]; omega) (Nat.le_refl _)
    simpa only [Src.render, Src.denote, List.append_assoc, List.cons_append, List.nil_append] using hM
  | .select a f, h => by
    have hX := (render_member a h.1).paren.select f
    have hM := hX.paren.mono (f' := 20 * sz (.select a f) + 1)
      (by simp only [sz]; omega) (Nat.le_refl _)
    simpa only [Src.render, Src.denote, List.append_assoc, List.cons_append, List.nil_append] using hM
  | .call f args, h => by
    have hlen := Src.length_renderEach args
    simp only [Src.render, Src.denote]
    exact (member_call (renderEach_items args h.2) f (h.1.notMacro)).mono (by simp only [sz]; omega)
      (Nat.le_refl _)
  | .mcall t f args, h => by
    have hlen := Src.length_renderEach args
    have hX := (render_member t h.1).paren.mcall
      (renderEach_items args h.2.2) f (h.2.1.notMacro)
    have hM := hX.paren.mono (f' := 20 * sz (.mcall t f args) + 1)
      (by simp only [sz]; omega) (Nat.le_refl _)
    simpa only [Src.render, Src.denote, List.append_assoc, List.cons_append, List.nil_append] using hM
  | .list es, h => by
    have hlen := Src.length_renderEach es
    simp only [Src.render, Src.denote]
    exact (member_list (renderEach_items es h)).mono (by simp only [sz]; omega) (Nat.le_refl _)
  | .mapLit es, h => by
    have hlen := Src.length_renderEntries es
    simp only [Src.render, Src.denote]
    exact (member_map (renderEntries_entries es h)).mono (by simp only [sz]; omega) (Nat.le_refl _)
/-- `+ 8`: the 1 of `render_member` and 7 from the member level down to `parseExpr` -/
theorem renderEach_items : (as : List Src) → Src.WFList as →
    Items (20 * szList as + 8) (Src.renderEach as) (Src.denoteList as)
  | [], _ => .nil
  | a :: as, h => by
    simp only [Src.renderEach, Src.denoteList]
    exact .cons (((render_member a h.1).parsesAt (Nat.zero_le 7)).mono (by simp only [szList]; omega))
      ((renderEach_items as h.2).mono (by simp only [szList]; omega))
theorem renderEntries_entries : (es : List (Src × Src)) → Src.WFEntries es →
    Entries (20 * szEntries es + 8) (Src.renderEntries es) (Src.denoteEntries es)
  | [], _ => .nil
  | (k, v) :: es, h => by
    simp only [Src.renderEntries, Src.denoteEntries]
    exact .cons (((render_member k h.1).parsesAt (Nat.zero_le 7)).mono (by simp only [szEntries]; omega))
      (((render_member v h.2.1).parsesAt (Nat.zero_le 7)).mono (by simp only [szEntries]; omega))
      ((renderEntries_entries es h.2.2).mono (by simp only [szEntries]; omega))
end

/-- the round trip through full parenthesisation, on token lists: rendering any well-formed tree
and parsing the tokens yields the tree it denotes — precedence, associativity and grouping are
preserved for every tree of `Src`, of every size and depth. -/
theorem parse_render_full (t : Src) (h : t.WF) : parseTop t.render = some t.denote := by
  have hlen := sz_le_render t
  exact ((render_member t h).parsesAt (Nat.zero_le 7)).parseTop (by omega)

/-- non-vacuity: `f(a, b + c).g([d], {e: f})[0] * 2` -/
def exCall : Src :=
  .bin "*" "_*_"
    (.index
      (.mcall (.call "f".toList [.ident "a".toList, .bin "+" "_+_" (.ident "b".toList) (.ident "c".toList)])
        "g".toList [.list [.ident "d".toList], .mapLit [(.ident "e".toList, .ident "f".toList)]])
      (.num 0))
    (.num 2)

example : exCall.render =
    [.sym "(", .sym "(", .sym "(", .sym "(", .sym "(",
       .ident "f".toList, .sym "(", .ident "a".toList, .sym ",",
         .sym "(", .ident "b".toList, .sym "+", .ident "c".toList, .sym ")", .sym ")",
       .sym ")", .sym ".", .ident "g".toList, .sym "(",
         .sym "[", .ident "d".toList, .sym "]", .sym ",",
         .sym "{", .ident "e".toList, .sym ":", .ident "f".toList, .sym "}", .sym ")", .sym ")",
       .sym ")", .sym "[", .int "0".toList, .sym "]", .sym ")",
     .sym "*", .int "2".toList, .sym ")"] := by decide

example : exCall.denote =
    .call "_*_" [.call "_[_]" [.mcall "g" (.call "f" [.ident "a", .call "_+_" [.ident "b", .ident "c"]])
      [.list [.ident "d"], .map [(.ident "e", .ident "f")]], .lit (.int 0)], .lit (.int 2)] := by
  simp [exCall, Src.denote, Src.denoteList, Src.denoteEntries]

example : exCall.WF := by
  simp [exCall, Src.WF, Src.WFList, Src.WFEntries, FnName, macroNames, binTable,
    i64Max]

example : parseTop exCall.render = some exCall.denote :=
  parse_render_full _ (by
    simp [exCall, Src.WF, Src.WFList, Src.WFEntries, FnName, macroNames, binTable,
      i64Max])

end Cel.Props.C04
