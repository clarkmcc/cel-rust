import CelModel.Refs
import CelModel.Props.C02
import CelModel.Lemmas.Undecl
import CelModel.Lemmas.AList
/-!
# C19 — reported references cover every name a program can look up

`Expr.vars` / `Expr.funcs` model `antlr/src/references.rs`.

Both directions are one traversal (`eval_satP`) at two choices of the tolerated errors: see `Hyp`.
-/
namespace Cel.Props.C19

mutual
/-- every `@`-identifier occurs only where an enclosing comprehension binds it as its accumulator
or iteration variable (`bound` = the names bound so far): the loop condition and the result are
evaluated with the accumulator bound, the step with both (the iteration variable is bound only once
the first element has been reached).  Macro expansion writes `@result` only inside the comprehension
it builds; that every parsed tree is `AccuClosed` is not a theorem. -/
def AccuClosed (bound : List String) : Expr → Bool
  | .lit _ => true
  | .ident n => !isInternalName n || bound.contains n
  | .call _ args => AccuClosedList bound args
  | .mcall _ t args => AccuClosed bound t && AccuClosedList bound args
  | .select e _ _ => AccuClosed bound e
  | .list es => AccuClosedList bound es
  | .map es => AccuClosedEntries bound es
  | .struct _ _ vs => AccuClosedList bound vs
  | .comp iv r av i c s res =>
    AccuClosed bound r && AccuClosed bound i && AccuClosed (av :: bound) c
      && AccuClosed (iv :: av :: bound) s && AccuClosed (av :: bound) res
  | .unspecified => true
def AccuClosedList (bound : List String) : List Expr → Bool
  | [] => true
  | e :: es => AccuClosed bound e && AccuClosedList bound es
def AccuClosedEntries (bound : List String) : List (Expr × Expr) → Bool
  | [] => true
  | (k, v) :: es => AccuClosed bound k && AccuClosed bound v && AccuClosedEntries bound es
end

theorem accuClosedList_mem {bound : List String} {es : List Expr}
    (h : AccuClosedList bound es = true) : ∀ e ∈ es, AccuClosed bound e = true :=
  forall_mem_of_and_cons (fun _ _ => by rw [AccuClosedList]) h

theorem accuClosedEntries_mem {bound : List String} {es : List (Expr × Expr)}
    (h : AccuClosedEntries bound es = true) :
    ∀ kv ∈ es, (AccuClosed bound kv.1 && AccuClosed bound kv.2) = true :=
  forall_mem_of_and_cons (fun _ _ => by rw [AccuClosedEntries]) h

def Defines (ctx : Ctx) (bound : List String) : Prop := ∀ n ∈ bound, (ctx.getVariable n).isSome

theorem Defines.push {ctx : Ctx} {bound : List String} (hd : Defines ctx bound) (sc : Scope)
    (extra : List String) (h : ∀ n ∈ extra, (Ctx.lookupScope sc n).isSome = true) :
    Defines (ctx.push sc) (extra ++ bound) := by
  intro n hn
  rcases List.mem_append.mp hn with hn | hn
  · exact Ctx.getVariable_push_isSome_of_lookup ctx sc n (h n hn)
  · exact Ctx.getVariable_push_isSome ctx sc n (hd n hn)

/-- names of the operators `resolve` dispatches on without consulting the function registry -/
def isOperatorName (f : String) : Bool :=
  f == condName || (binOpOfName f).isSome || (unOpOfName f).isSome

mutual
/-- operator names are used with their own arity; then they are never looked up as functions.
The parser builds operator calls only so; that every parsed tree is `OpsWellFormed` is not a theorem. -/
def OpsWellFormed : Expr → Bool
  | .lit _ => true
  | .ident _ => true
  | .call f args =>
    (if f == condName then args.length == 3
     else if (binOpOfName f).isSome then args.length == 2
     else if (unOpOfName f).isSome then args.length == 1 else true) && OpsWellFormedList args
  | .mcall f t args =>
    (if f == condName then args.length == 3
     else if (binOpOfName f).isSome then args.length == 2
     else if (unOpOfName f).isSome then args.length == 1 else true)
      && OpsWellFormed t && OpsWellFormedList args
  | .select e _ _ => OpsWellFormed e
  | .list es => OpsWellFormedList es
  | .map es => OpsWellFormedEntries es
  | .struct _ _ vs => OpsWellFormedList vs
  | .comp _ r _ i c s res =>
    OpsWellFormed r && OpsWellFormed i && OpsWellFormed c && OpsWellFormed s && OpsWellFormed res
  | .unspecified => true
def OpsWellFormedList : List Expr → Bool
  | [] => true
  | e :: es => OpsWellFormed e && OpsWellFormedList es
def OpsWellFormedEntries : List (Expr × Expr) → Bool
  | [] => true
  | (k, v) :: es => OpsWellFormed k && OpsWellFormed v && OpsWellFormedEntries es
end

/-- the arity check that `OpsWellFormed` writes inline at `.call` and `.mcall` -/
def arityOk (f : String) (n : Nat) : Bool :=
  if f == condName then n == 3
  else if (binOpOfName f).isSome then n == 2
  else if (unOpOfName f).isSome then n == 1 else true

theorem not_reaches (f : String) (n : Nat) (hop : isOperatorName f = true)
    (har : arityOk f n = true) : ¬ ReachesFn f n := by
  rintro ⟨h3, h2, h1⟩
  unfold arityOk at har
  unfold isOperatorName at hop
  by_cases hc : (f == condName) = true
  · rw [if_pos hc] at har
    have := h3 (by simpa using har)
    rw [hc] at this; cases this
  · rw [if_neg hc] at har
    by_cases hb : (binOpOfName f).isSome = true
    · rw [if_pos hb] at har
      have := h2 (by simpa using har)
      rw [this] at hb; cases hb
    · rw [if_neg hb] at har
      by_cases hu : (unOpOfName f).isSome = true
      · rw [if_pos hu] at har
        have := h1 (by simpa using har)
        rw [this] at hu; cases hu
      · simp only [Bool.not_eq_true] at hc hb hu
        rw [hc, hb, hu] at hop
        cases hop

/-- the hypotheses under which both directions are proved at once: `P` accepts every error other
than `undeclared`; it accepts `undeclared n` for every reported variable the context lacks and
for every reported non-operator function the context lacks; and either operators are used with
their own arity (flag `wf`) or `P` accepts `undeclared f` for every reported function -/
structure Hyp (ctx : Ctx) (P : ErrC → Prop) (vs fs : List String) (wf : Bool) : Prop where
  good : Good P
  vars : ∀ n ∈ vs, ctx.getVariable n = none → P (.undeclared n)
  funs : ∀ f ∈ fs, ctx.getFunction f = none → isOperatorName f = false → P (.undeclared f)
  wf : wf = true ∨ ∀ f ∈ fs, P (.undeclared f)

theorem Hyp.mono {ctx : Ctx} {P : ErrC → Prop} {vs fs vs' fs' : List String} {wf wf' : Bool}
    (h : Hyp ctx P vs fs wf) (hv : ∀ n, n ∈ vs' → n ∈ vs) (hf : ∀ f, f ∈ fs' → f ∈ fs)
    (hw : wf = true → wf' = true) : Hyp ctx P vs' fs' wf' where
  good := h.good
  vars := fun n hn => h.vars n (hv n hn)
  funs := fun f hf' => h.funs f (hf f hf')
  wf := h.wf.elim (fun x => Or.inl (hw x)) (fun x => Or.inr (fun f hf' => x f (hf f hf')))

theorem Hyp.push {ctx : Ctx} {P : ErrC → Prop} {vs fs : List String} {wf : Bool}
    (h : Hyp ctx P vs fs wf) (sc : Scope) : Hyp (ctx.push sc) P vs fs wf where
  good := h.good
  vars := fun n hn hnone => h.vars n hn (Ctx.getVariable_push_none ctx sc n hnone)
  funs := fun f hf hnone => h.funs f hf hnone
  wf := h.wf

/-! `vars`, `funcs` and `OpsWellFormed` are built in parallel, with `++`, `++` and `&&`: one
restriction lemma per side serves every constructor. -/

theorem Hyp.left {ctx : Ctx} {P : ErrC → Prop} {vs vs' fs fs' : List String} {w w' : Bool}
    (h : Hyp ctx P (vs ++ vs') (fs ++ fs') (w && w')) : Hyp ctx P vs fs w :=
  h.mono (fun _ h => List.mem_append_left _ h) (fun _ h => List.mem_append_left _ h)
    (fun h => (Bool.and_eq_true_iff.1 h).1)

theorem Hyp.right {ctx : Ctx} {P : ErrC → Prop} {vs vs' fs fs' : List String} {w w' : Bool}
    (h : Hyp ctx P (vs ++ vs') (fs ++ fs') (w && w')) : Hyp ctx P vs' fs' w' :=
  h.mono (fun _ h => List.mem_append_right _ h) (fun _ h => List.mem_append_right _ h)
    (fun h => (Bool.and_eq_true_iff.1 h).2)

theorem Hyp.args {ctx : Ctx} {P : ErrC → Prop} {vs fs : List String} {f : String} {a w : Bool}
    (h : Hyp ctx P vs (f :: fs) (a && w)) : Hyp ctx P vs fs w :=
  h.mono (fun _ h => h) (fun _ h => List.mem_cons_of_mem _ h)
    (fun h => (Bool.and_eq_true_iff.1 h).2)

theorem Hyp.elem {ctx : Ctx} {P : ErrC → Prop} {es : List Expr} {a : Expr}
    (h : Hyp ctx P (varsList es) (funcsList es) (OpsWellFormedList es)) (ha : a ∈ es) :
    Hyp ctx P a.vars a.funcs (OpsWellFormed a) := by
  induction es with
  | nil => cases ha
  | cons e es ih =>
    rw [varsList, funcsList, OpsWellFormedList] at h
    rcases List.mem_cons.mp ha with rfl | ha
    · exact h.left
    · exact ih h.right ha

theorem Hyp.entry {ctx : Ctx} {P : ErrC → Prop} {es : List (Expr × Expr)} {kv : Expr × Expr}
    (h : Hyp ctx P (varsEntries es) (funcsEntries es) (OpsWellFormedEntries es)) (hkv : kv ∈ es) :
    Hyp ctx P kv.1.vars kv.1.funcs (OpsWellFormed kv.1) ∧
      Hyp ctx P kv.2.vars kv.2.funcs (OpsWellFormed kv.2) := by
  induction es with
  | nil => cases hkv
  | cons e es ih =>
    obtain ⟨k, v⟩ := e
    rw [varsEntries, funcsEntries, OpsWellFormedEntries] at h
    rcases List.mem_cons.mp hkv with rfl | hkv
    · exact ⟨h.left.left, h.left.right⟩
    · exact ih h.right hkv

/-- what `Closed.callNode` needs about the node's own name -/
theorem Hyp.call_hund {ctx : Ctx} {P : ErrC → Prop} {vs fs : List String} {wf : Bool} {f : String}
    {n : Nat} (h : Hyp ctx P vs (f :: fs) wf) (har : wf = true → arityOk f n = true) :
    ReachesFn f n → ctx.getFunction f = none → P (.undeclared f) := by
  intro hr hnone
  cases hop : isOperatorName f
  · exact h.funs f (List.mem_cons_self ..) hnone hop
  · rcases h.wf with hw | hall
    · exact absurd hr (not_reaches f n hop (har hw))
    · exact hall f (List.mem_cons_self ..)

def Guarded (P : ErrC → Prop) (ctx : Ctx) (e : Expr) : Prop :=
  ∃ bound, AccuClosed bound e = true ∧ Defines ctx bound ∧
    Hyp ctx P e.vars e.funcs (OpsWellFormed e)

theorem guard (P : ErrC → Prop) : Guard (fun _ {_} m => SatP m Any P) P (Guarded P) where
  ident := by
    rintro ctx n ⟨bound, hc, hd, H⟩ hnone
    rw [AccuClosed] at hc
    cases hi : isInternalName n
    · refine H.vars n ?_ hnone
      rw [Expr.vars, hi]; simp
    · rw [hi] at hc
      have := hd n (by simpa using hc)
      rw [hnone] at this; cases this
  call := by
    rintro ctx f args ⟨bound, hc, hd, H⟩
    exact ⟨fun a ha => ⟨bound, accuClosedList_mem hc a ha, hd, H.args.elem ha⟩,
      H.call_hund fun h => (Bool.and_eq_true_iff.1 h).1⟩
  mcall := by
    rintro ctx f t args ⟨bound, hc, hd, H⟩
    obtain ⟨hct, hca⟩ := Bool.and_eq_true_iff.1 hc
    rw [OpsWellFormed, Bool.and_assoc] at H
    exact ⟨⟨bound, hct, hd, H.args.left⟩,
      fun a ha => ⟨bound, accuClosedList_mem hca a ha, hd, H.args.right.elem ha⟩,
      H.call_hund fun h => (Bool.and_eq_true_iff.1 h).1⟩
  select := by
    rintro ctx e field test ⟨bound, hc, hd, H⟩
    exact ⟨bound, hc, hd, H⟩
  list := by
    rintro ctx es ⟨bound, hc, hd, H⟩ e he
    exact ⟨bound, accuClosedList_mem hc e he, hd, H.elem he⟩
  map := by
    rintro ctx es ⟨bound, hc, hd, H⟩ kv hkv
    obtain ⟨hk, hv⟩ := Bool.and_eq_true_iff.1 (accuClosedEntries_mem hc kv hkv)
    exact ⟨⟨bound, hk, hd, (H.entry hkv).1⟩, ⟨bound, hv, hd, (H.entry hkv).2⟩⟩
  comp := by
    rintro ctx iv range av init cond step result ⟨bound, hc, hd, H⟩
    obtain ⟨hc, hcres⟩ := Bool.and_eq_true_iff.1 hc
    obtain ⟨hc, hcs⟩ := Bool.and_eq_true_iff.1 hc
    obtain ⟨hc, hcc⟩ := Bool.and_eq_true_iff.1 hc
    obtain ⟨hcr, hci⟩ := Bool.and_eq_true_iff.1 hc
    have Hr := H.left.left.left.left
    have Hi := H.left.left.left.right
    have Hc := H.left.left.right
    have Hs := H.left.right
    have Hres := H.right
    -- the loop invariant: the accumulator is bound (the iteration variable only inside the step)
    refine ⟨⟨bound, hci, hd, Hi⟩, ⟨bound, hcr, hd, Hr⟩,
      fun sc => (Ctx.lookupScope sc av).isSome = true,
      fun sc n v h => Ctx.lookup_scopeInsert_isSome sc n av v h, fun _ => by simp [Ctx.lookupScope],
      fun sc hsc => ?_, fun sc item hsc => ?_⟩
    · have hav : ∀ n ∈ [av], (Ctx.lookupScope sc n).isSome = true := by
        intro n hn
        cases List.mem_singleton.mp hn
        exact hsc
      exact ⟨⟨av :: bound, hcc, hd.push sc [av] hav, Hc.push sc⟩,
        ⟨av :: bound, hcres, hd.push sc [av] hav, Hres.push sc⟩⟩
    · refine ⟨iv :: av :: bound, hcs, hd.push _ [iv, av] ?_, Hs.push _⟩
      intro n hn
      rcases List.mem_cons.mp hn with rfl | hn
      · exact Ctx.lookup_scopeInsert_self sc n item
      · cases List.mem_singleton.mp hn
        exact Ctx.lookup_scopeInsert_isSome sc iv av item hsc
  unspecified _ _ := SatP.panic

theorem eval_satP (e : Expr) (bound : List String) (hc : AccuClosed bound e = true) (ctx : Ctx)
    (hd : Defines ctx bound) {P : ErrC → Prop} (H : Hyp ctx P e.vars e.funcs (OpsWellFormed e)) :
    SatP (eval ctx e) Any P :=
  SatP.closed.eval H.good (guard P) e ctx ⟨bound, hc, hd, H⟩

/-- coverage, for `AccuClosed` trees: if evaluation fails because a variable or function is undeclared,
that name is among the reported variables or functions.  The host functions of a model context have
one of the four bodies of `HostBody`, none of which raises `undeclared` itself. -/
theorem undeclared_is_reported (e : Expr) (bound : List String) (hc : AccuClosed bound e = true)
    (ctx : Ctx) (hd : Defines ctx bound) (st : St Value) (n : String) (st' : St Value)
    (h : eval ctx e st = (.err (.undeclared n), st')) :
    n ∈ e.vars ∨ n ∈ e.funcs := by
  have H : Hyp ctx (fun err => ∀ m, err = .undeclared m → m ∈ e.vars ∨ m ∈ e.funcs)
      e.vars e.funcs (OpsWellFormed e) :=
    { good := fun err herr m hm => by subst hm; cases herr
      vars := fun v hv _ m hm => by cases hm; exact Or.inl hv
      funs := fun f hf _ _ m hm => by cases hm; exact Or.inr hf
      wf := Or.inr (fun f hf m hm => by cases hm; exact Or.inr hf) }
  exact (eval_satP e bound hc ctx hd H).err_of_run h n rfl

/-- corollary for whole programs (nothing bound outside) -/
theorem undeclared_is_reported_program (e : Expr) (hc : AccuClosed [] e = true) (ctx : Ctx)
    (n : String) (h : (execute ctx e).1 = .err (.undeclared n)) :
    n ∈ e.vars ∨ n ∈ e.funcs := by
  refine undeclared_is_reported e [] hc ctx (fun _ hn => nomatch hn) {} n (execute ctx e).2 ?_
  rw [← h, execute_eq]

/-- the converse, for `AccuClosed` trees whose operator names have their own arity (`OpsWellFormed`;
the examples below show that both are needed): when the context defines every reported variable
and every reported function that is not an operator, evaluation never fails with an undeclared
reference. -/
theorem declared_never_undeclared (e : Expr) (bound : List String)
    (hc : AccuClosed bound e = true) (hw : OpsWellFormed e = true) (ctx : Ctx)
    (hd : Defines ctx bound)
    (hv : ∀ v ∈ e.vars, (ctx.getVariable v).isSome)
    (hf : ∀ f ∈ e.funcs, isOperatorName f = true ∨ ctx.hasFunction f = true)
    (st : St Value) (n : String) (st' : St Value) :
    eval ctx e st ≠ (.err (.undeclared n), st') := by
  intro h
  have H : Hyp ctx (fun err => err.isUndecl = false) e.vars e.funcs (OpsWellFormed e) :=
    { good := fun _ herr => herr
      vars := fun v hv' hnone => by
        have := hv v hv'
        rw [hnone] at this; cases this
      funs := fun f hf' hnone hop => by
        rcases hf f hf' with h1 | h1
        · rw [hop] at h1; cases h1
        · unfold Ctx.hasFunction at h1
          rw [hnone] at h1; cases h1
      wf := Or.inl hw }
  have := (eval_satP e bound hc ctx hd H).err_of_run h
  cases this

/-! ### what is reported: the identifiers that are not macro-internal, the names of call nodes -/

mutual
def identNames : Expr → List String
  | .lit _ => []
  | .ident n => [n]
  | .call _ args => identNamesList args
  | .mcall _ t args => identNames t ++ identNamesList args
  | .select e _ _ => identNames e
  | .list es => identNamesList es
  | .map es => identNamesEntries es
  | .struct _ _ vs => identNamesList vs
  | .comp _ r _ i c s res =>
    identNames r ++ identNames i ++ identNames c ++ identNames s ++ identNames res
  | .unspecified => []
def identNamesList : List Expr → List String
  | [] => []
  | e :: es => identNames e ++ identNamesList es
def identNamesEntries : List (Expr × Expr) → List String
  | [] => []
  | (k, v) :: es => identNames k ++ identNames v ++ identNamesEntries es
end

mutual
theorem vars_eq : ∀ e : Expr, e.vars = (identNames e).filter (!isInternalName ·)
  | .lit _ => rfl
  | .ident n => by
    rw [Expr.vars, identNames]
    cases h : isInternalName n <;> simp [h]
  | .call _ args => by
    rw [Expr.vars, identNames, varsList_eq args]
  | .mcall _ t args => by
    rw [Expr.vars, identNames, List.filter_append, vars_eq t, varsList_eq args]
  | .select e _ _ => by
    rw [Expr.vars, identNames, vars_eq e]
  | .list es => by
    rw [Expr.vars, identNames, varsList_eq es]
  | .map es => by
    rw [Expr.vars, identNames, varsEntries_eq es]
  | .struct _ _ vs => by
    rw [Expr.vars, identNames, varsList_eq vs]
  | .comp _ r _ i c s res => by
    rw [Expr.vars, identNames, List.filter_append, List.filter_append, List.filter_append,
      List.filter_append, vars_eq r, vars_eq i, vars_eq c, vars_eq s, vars_eq res]
  | .unspecified => rfl
theorem varsList_eq : ∀ es : List Expr,
    varsList es = (identNamesList es).filter (!isInternalName ·)
  | [] => rfl
  | e :: es => by
    rw [varsList, identNamesList, List.filter_append, vars_eq e, varsList_eq es]
theorem varsEntries_eq : ∀ es : List (Expr × Expr),
    varsEntries es = (identNamesEntries es).filter (!isInternalName ·)
  | [] => rfl
  | (k, v) :: es => by
    rw [varsEntries, identNamesEntries, List.filter_append, List.filter_append, vars_eq k,
      vars_eq v, varsEntries_eq es]
end

/-- the macro-internal names (`@result`, any `@…`) are never among the reported variables -/
theorem accumulators_never_reported (e : Expr) (n : String) (h : n ∈ e.vars) :
    isInternalName n = false := by
  rw [vars_eq, List.mem_filter] at h
  simpa using h.2

/-- every reported variable occurs as an identifier node of the tree (about the tree, not the tokens) -/
theorem reported_vars_are_identifiers (e : Expr) (n : String) (h : n ∈ e.vars) :
    n ∈ identNames e := by
  rw [vars_eq] at h
  exact (List.mem_filter.mp h).1

/-- a call node reports its own name (`funcs` then appends what the operands report) -/
theorem call_names_reported (f : String) (args : List Expr) (t : Expr) :
    f ∈ (Expr.call f args).funcs ∧ f ∈ (Expr.mcall f t args).funcs := by
  constructor
  · rw [Expr.funcs]
    exact List.mem_cons_self ..
  · rw [Expr.funcs]
    exact List.mem_cons_self ..

/-- `vars` / `funcs` take no context (stated for the record) -/
theorem refs_independent_of_ctx (e : Expr) (_ctx1 _ctx2 : Ctx) :
    (e.vars, e.funcs) = (e.vars, e.funcs) := rfl

/-- an unbound `@`-identifier is looked up but not reported: `AccuClosed` is needed -/
example : (execute {} (.ident "@x")).1 = .err (.undeclared "@x") ∧
    (Expr.ident "@x").vars = [] ∧ AccuClosed [] (.ident "@x") = false := by
  refine ⟨by rfl, by decide, by decide⟩

/-- an operator name used with a foreign arity is looked up as a function: `OpsWellFormed` is
needed for the converse -/
example : (execute {} (.call "_+_" [.lit (.int 1)])).1 = .err (.undeclared "_+_") ∧
    OpsWellFormed (.call "_+_" [.lit (.int 1)]) = false ∧
    isOperatorName "_+_" = true ∧ "_+_" ∈ (Expr.call "_+_" [.lit (.int 1)]).funcs := by
  refine ⟨by rfl, by decide, by decide, by decide⟩

/-- the comprehension of `C02.demo` meets the hypotheses; without `h` the failure names `h`,
which is reported -/
example : AccuClosed [] C02.demo = true ∧ OpsWellFormed C02.demo = true ∧
    (execute {} C02.demo).1 = .err (.undeclared "h") ∧ "h" ∈ C02.demo.funcs := by
  refine ⟨by decide, by decide, by rfl, by decide⟩

end Cel.Props.C19
