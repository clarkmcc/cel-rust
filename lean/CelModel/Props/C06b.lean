import CelModel.Props.C06
/-!
# C06 (second part) — the skipped operand is irrelevant, at every depth

"Not evaluated" said as an independence statement: when the first operand decides, the whole
result of the evaluation - outcome, host-call log, step counter - is the same whatever the
skipped operand is (one that fails, panics or logs included); likewise for chains and for a
conditional inside a skipped operand.
-/
namespace Cel.Props.C06

theorem and_independent_of_skipped (ctx : Ctx) (a b b' : Expr) (st st1 : St Value) (v : Value)
    (h : eval ctx a (tickSt st) = (.ok v, st1)) (hv : v.truthy = false) :
    eval ctx (.call "_&&_" [a, b]) st = eval ctx (.call "_&&_" [a, b']) st := by
  rw [and_skips_right ctx a b st st1 v h hv, and_skips_right ctx a b' st st1 v h hv]

theorem or_independent_of_skipped (ctx : Ctx) (a b b' : Expr) (st st1 : St Value) (v : Value)
    (h : eval ctx a (tickSt st) = (.ok v, st1)) (hv : v.truthy = true) :
    eval ctx (.call "_||_" [a, b]) st = eval ctx (.call "_||_" [a, b']) st := by
  rw [or_skips_right ctx a b st st1 v h hv, or_skips_right ctx a b' st st1 v h hv]

theorem cond_independent_of_unselected (ctx : Ctx) (c x y x' y' : Expr) (st st1 : St Value)
    (cv : Value) (h : eval ctx c (tickSt st) = (.ok cv, st1)) :
    (cv.truthy = true →
      eval ctx (.call "_?_:_" [c, x, y]) st = eval ctx (.call "_?_:_" [c, x, y']) st) ∧
    (cv.truthy = false →
      eval ctx (.call "_?_:_" [c, x, y]) st = eval ctx (.call "_?_:_" [c, x', y]) st) := by
  constructor
  · intro ht
    rw [cond_evaluates_one_branch ctx c x y st st1 cv h,
      cond_evaluates_one_branch ctx c x y' st st1 cv h, if_pos ht, if_pos ht]
  · intro ht
    rw [cond_evaluates_one_branch ctx c x y st st1 cv h,
      cond_evaluates_one_branch ctx c x' y st st1 cv h, ht]
    rfl

/-- a failing first operand makes the other operands irrelevant too -/
theorem error_independent_of_rest (ctx : Ctx) (a b c b' c' : Expr) (st st1 : St Value) (e : ErrC)
    (h : eval ctx a (tickSt st) = (.err e, st1)) :
    eval ctx (.call "_&&_" [a, b]) st = eval ctx (.call "_&&_" [a, b']) st ∧
    eval ctx (.call "_||_" [a, b]) st = eval ctx (.call "_||_" [a, b']) st ∧
    eval ctx (.call "_?_:_" [a, b, c]) st = eval ctx (.call "_?_:_" [a, b', c']) st := by
  have h1 := first_operand_error_aborts ctx a b c st st1 e h
  have h2 := first_operand_error_aborts ctx a b' c' st st1 e h
  exact ⟨h1.1.trans h2.1.symm, h1.2.1.trans h2.2.1.symm, h1.2.2.trans h2.2.2.symm⟩

/-- `(a && b) && c` with `a` false: the state is the one `a` left, so neither `b` nor `c` is evaluated -/
theorem and_chain_skips_all (ctx : Ctx) (a b c : Expr) (st st1 : St Value) (v : Value)
    (h : eval ctx a (tickSt (tickSt st)) = (.ok v, st1)) (hv : v.truthy = false) :
    eval ctx (.call "_&&_" [.call "_&&_" [a, b], c]) st = (.ok (.bool false), st1) := by
  have hin := and_skips_right ctx a b (tickSt st) st1 v h hv
  exact and_skips_right ctx _ c st st1 (.bool false) hin rfl

/-- `(a || b) || c` with `a` true: `a`'s value, and neither `b` nor `c` is evaluated -/
theorem or_chain_skips_all (ctx : Ctx) (a b c : Expr) (st st1 : St Value) (v : Value)
    (h : eval ctx a (tickSt (tickSt st)) = (.ok v, st1)) (hv : v.truthy = true) :
    eval ctx (.call "_||_" [.call "_||_" [a, b], c]) st = (.ok v, st1) := by
  have hin := or_skips_right ctx a b (tickSt st) st1 v h hv
  exact or_skips_right ctx _ c st st1 v hin hv

/-- a conditional on a decided conjunction: `(a && b) ? x : y` with `a` false evaluates `a` and `y`
and nothing else -/
theorem cond_on_decided_and (ctx : Ctx) (a b x y : Expr) (st st1 : St Value) (v : Value)
    (h : eval ctx a (tickSt (tickSt st)) = (.ok v, st1)) (hv : v.truthy = false) :
    eval ctx (.call "_?_:_" [.call "_&&_" [a, b], x, y]) st = eval ctx y st1 := by
  have hin := and_skips_right ctx a b (tickSt st) st1 v h hv
  rw [cond_evaluates_one_branch ctx _ x y st st1 (.bool false) hin]
  rfl

/-- `and_skips_right` at two particular right operands, spelled out for the property text -/
theorem and_skips_compound_right (ctx : Ctx) (a c x y p q : Expr) (st st1 : St Value) (v : Value)
    (h : eval ctx a (tickSt st) = (.ok v, st1)) (hv : v.truthy = false) :
    eval ctx (.call "_&&_" [a, .call "_?_:_" [c, x, y]]) st = (.ok (.bool false), st1) ∧
    eval ctx (.call "_&&_" [a, .call "_||_" [p, q]]) st = (.ok (.bool false), st1) :=
  ⟨and_skips_right ctx a _ st st1 v h hv, and_skips_right ctx a _ st st1 v h hv⟩

example :
    (eval {} (.call "_&&_" [.call "_&&_" [.lit (.bool false), .unspecified], .ident "undeclared"])
      {}).1 = .ok (.bool false) := by
  rw [and_chain_skips_all {} _ _ _ {} (tickSt (tickSt (tickSt {}))) (.bool false)] <;> rfl

end Cel.Props.C06
