import CelModel.Props.C08
import CelModel.Lemmas.Rfc3339
/-!
# C16 — timestamps keep the instant and calendar fields they were given

A timestamp is a UTC instant in nanoseconds plus its offset in seconds; the calendar is the
proleptic Gregorian day arithmetic of `Time.civilFromDays` / `Time.daysFromCivil` (chrono's
observable behaviour, modelled).
-/
namespace Cel.Props.C16
open Cel.Time

/-- month 1–12 and a day that exists in that month of year `y` -/
def ValidYmd (y : Int) (m d : Nat) : Prop := 1 ≤ m ∧ m ≤ 12 ∧ 1 ≤ d ∧ d ≤ daysInMonth y m

/-- one 400-year era (146097 days): every day of the era maps to a date of the era and back -/
theorem doe_roundtrip (doe : Nat) (h : doe < 146097) :
    let (yoe, m, d) := civilOfDoe doe
    doeOfCivil yoe m d = doe ∧ yoe < 400 ∧ 1 ≤ m ∧ m ≤ 12 ∧ 1 ≤ d ∧ d ≤ 31 := by
  obtain ⟨yoe, m, d, hc, h1, h2, h3, h4, h5, h6⟩ := civilOfDoe_spec doe h
  rw [hc]
  exact ⟨h1, h2, h3, h4, h5, Nat.le_trans h6 (daysInMonth_le _ m)⟩

/-- every day number maps to a date that maps back to it -/
theorem days_roundtrip (z : Int) :
    let (y, m, d) := civilFromDays z
    daysFromCivil y m d = z := by
  obtain ⟨y, m, d, hc, h1, _⟩ := civilFromDays_spec z
  rw [hc]
  exact h1

/-- every valid date maps to a day number that maps back to it -/
theorem civil_roundtrip (y : Int) (m d : Nat) (h : ValidYmd y m d) :
    civilFromDays (daysFromCivil y m d) = (y, m, d) :=
  civilFromDays_daysFromCivil y m d h.1 h.2.1 h.2.2.1 h.2.2.2

/-- the weekday is the local day number plus 4, modulo 7: Sunday = 0 and 1970-01-01 (day 0) is a
Thursday -/
theorem weekday_spec (utcNs offset : Int) :
    access .dayOfWeek utcNs offset = ((fields utcNs offset).days + 4) % 7 ∧
    0 ≤ access .dayOfWeek utcNs offset ∧ access .dayOfWeek utcNs offset ≤ 6 ∧
    access .dayOfWeek 0 0 = 4 := by
  refine ⟨rfl, ?_, ?_, by decide⟩
  · simp only [access]; omega
  · simp only [access]; omega

/-- the accessors with their documented origins: month, day of month and day of year are
0-based, `getDate` 1-based -/
theorem accessor_origins (utcNs offset : Int) :
    access .month utcNs offset = (fields utcNs offset).month - 1 ∧
    access .dayOfMonth utcNs offset = (fields utcNs offset).day - 1 ∧
    access .date utcNs offset = (fields utcNs offset).day ∧
    access .fullYear utcNs offset = (fields utcNs offset).year ∧
    access .dayOfYear utcNs offset =
      (fields utcNs offset).days - daysFromCivil (fields utcNs offset).year 1 1 :=
  ⟨rfl, rfl, rfl, rfl, rfl⟩

theorem fields_civil (utcNs offset : Int) :
    let f := fields utcNs offset
    daysFromCivil f.year f.month f.day = f.days ∧ ValidYmd f.year f.month f.day := by
  obtain ⟨y, m, d, hc, h⟩ := civilFromDays_spec ((utcNs + offset * nsPerSec) / nsPerDay)
  simp only [fields, hc]
  exact h

theorem hms_recompose (sod : Nat) : sod / 3600 * 3600 + sod / 60 % 60 * 60 + sod % 60 = sod := by
  omega

/-- the fields recompose to the local time: they are the proleptic-Gregorian fields of the
instant at the timestamp's own offset -/
theorem accessors_recompose (utcNs offset : Int) :
    let f := fields utcNs offset
    utcNs + offset * nsPerSec =
      (daysFromCivil f.year f.month f.day * 86400 + (f.hour * 3600 + f.minute * 60 + f.second : Nat)) * nsPerSec
        + f.nanos ∧
    f.hour < 24 ∧ f.minute < 60 ∧ f.second < 60 ∧ f.nanos < 1000000000 := by
  obtain ⟨y, m, d, hc, h1, _⟩ := civilFromDays_spec ((utcNs + offset * nsPerSec) / nsPerDay)
  simp only [fields, hc]
  rw [h1, hms_recompose]
  simp only [nsPerDay, nsPerSec]
  generalize utcNs + offset * 1000000000 = l
  refine ⟨?_, ?_, ?_, ?_, ?_⟩ <;> omega

/-- equality and ordering compare instants regardless of offset -/
theorem cmp_by_instant_ignores_offset (a b o1 o2 : Int) :
    Value.partialCmp (.ts a o1) (.ts b o2) = some (compare a b) ∧
    Value.eq (.ts a o1) (.ts b o2) = (a == b) :=
  ⟨rfl, rfl⟩

/-- `t + d - d == t` and `(t + d) - t == d` whenever `t + d` is representable; otherwise the
addition is an error -/
theorem add_sub_duration_inverse (t o d : Int) (ht : inRange t = true) :
    (inRange (t + d) = true →
      arith .add (.ts t o) (.dur d) = .ok (.ts (t + d) o) ∧
      arith .sub (.ts (t + d) o) (.dur d) = .ok (.ts t o) ∧
      arith .sub (.ts (t + d) o) (.ts t o) = .ok (.dur d)) ∧
    (inRange (t + d) = false → arith .add (.ts t o) (.dur d) = .err .overflow) := by
  refine ⟨fun h => ⟨?_, ?_, ?_⟩, fun h => ?_⟩
  · simp [arith, h]
  · have : t + d - d = t := by omega
    simp [arith, this, ht]
  · have : t + d - t = d := by omega
    simp [arith, this]
  · simp [arith, h]

/-- `C08.arith_no_panic` under the name of the property's clause: arithmetic on timestamps and
durations that leaves chrono's range is an error, not a panic -/
theorem time_ops_error_not_panic (op : ArithOp) (a b : Value) : (arith op a b).isPanic = false :=
  C08.arith_no_panic op a b

theorem fracOK_format (nanos : Nat) (h : nanos < 1000000000) :
    Rfc.FracOK (if (nanos == 0) = true then []
      else if (nanos % 1000000 == 0) = true then '.' :: pad 3 (nanos / 1000000)
      else if (nanos % 1000 == 0) = true then '.' :: pad 6 (nanos / 1000)
      else '.' :: pad 9 nanos) nanos := by
  unfold Rfc.FracOK
  by_cases h0 : nanos = 0
  · left; simp [h0]
  · right
    by_cases h6 : nanos % 1000000 = 0
    · exact ⟨3, nanos / 1000000, by omega, by omega, by omega, by simp [h0, h6], by omega⟩
    · by_cases h3 : nanos % 1000 = 0
      · exact ⟨6, nanos / 1000, by omega, by omega, by omega, by simp [h0, h6, h3], by omega⟩
      · exact ⟨9, nanos, by omega, by omega, by omega, by simp [h0, h6, h3], by omega⟩

/-- RFC 3339 text round trip for years 0000–9999 and whole-minute offsets:
`timestamp(string(t)) == t`, offset included -/
theorem rfc3339_roundtrip (utcNs offset : Int)
    (hy : 0 ≤ (fields utcNs offset).year ∧ (fields utcNs offset).year ≤ 9999)
    (ho : offset % 60 = 0 ∧ -86400 < offset ∧ offset < 86400) :
    Time.parse (Time.format utcNs offset) = some (utcNs, offset) := by
  unfold format
  extract_lets f year frac osign oabs omin
  -- offset and year first, while the context is small: `omega` takes every hypothesis in
  have hoh : omin / 60 < 24 := by omega
  have hoff : offset = if offset < 0 then -((omin / 60 * 3600 + omin % 60 * 60 : Nat) : Int)
      else ((omin / 60 * 3600 + omin % 60 * 60 : Nat) : Int) := by
    split <;> omega
  have hy' : 0 ≤ f.year ∧ f.year ≤ 9999 := hy
  have hY : f.year.toNat < 10000 := by omega
  have hYc : ((f.year.toNat : Nat) : Int) = f.year := by omega
  have hyear : year = pad 4 f.year.toNat := if_pos (by simp [hy'])
  have hr := accessors_recompose utcNs offset
  have hv := fields_civil utcNs offset
  extract_lets at hr hv
  obtain ⟨hrec, hh, hmi, hs, hn⟩ := hr
  obtain ⟨_, hm1, hm12, hd1, hdm⟩ := hv
  have key := Rfc.parse_render f.year.toNat f.month f.day f.hour f.minute f.second f.nanos frac
    (offset < 0) (omin / 60) (omin % 60) offset hY hm1 hm12 hd1 (hYc ▸ hdm)
    (Nat.le_of_lt_succ hh) (Nat.le_of_lt_succ hmi) (Nat.le_of_lt_succ hs) hoh
    (Nat.mod_lt _ (by decide)) (fracOK_format f.nanos hn) hoff
  simp only [hyear, List.append_assoc, List.cons_append, List.nil_append]
  rw [key, hYc]
  simp only [nsPerDay, nsPerSec, Option.some.injEq, Prod.mk.injEq, and_true] at hrec ⊢
  omega

/-! ### non-vacuity: a leap day maps to its day number and back; a text with a fraction and an
offset is read as the instant and the offset -/
example : civilFromDays 11016 = (2000, 2, 29) ∧ daysFromCivil 2000 2 29 = 11016 := by
  decide
example : Time.parse "2000-02-29T00:00:00.123+01:00".toList = some (951778800123000000, 3600) := by
  decide +kernel

end Cel.Props.C16
