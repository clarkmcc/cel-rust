import CelModel.Lemmas.Sat
/-!
# C02 — evaluating a compiled program never panics

`Program::compile` never produces an `Expr::Unspecified` node.  For every such tree, every
context (any variables, any registered functions including host functions of any signature, any
regex table) and every start state, `eval` yields a value or an execution error.
-/
namespace Cel.Props.C02

/-- the operator impls of `Value` (`Add`/`Sub`/`Mul`/`Div`/`Rem`, `==`, `partial_cmp`, `in`, indexing)
return a value or an error on any two values -/
theorem applyBin_no_panic (op : BinOp) (a b : Value) : (applyBin op a b).isPanic = false :=
  Outcome.plain.isPanic (Plain.applyBin op a b)

/-- `!`, unary `-` and `@not_strictly_false` on any value; `-` on `i64::MIN` is the overflow error -/
theorem applyUn_no_panic (op : UnOp) (v : Value) : (applyUn op v).isPanic = false :=
  Outcome.plain.isPanic (Plain.applyUn op v)

/-- a function of `functions.rs`, called on parameters of the shapes its own `magic.rs` extractors
deliver, returns a value or an error -/
theorem applyBuiltin_no_panic (ctx : Ctx) (b : Builtin) (ps : List Value)
    (h : MatchesSig b.sig ps) : (applyBuiltin ctx b ps).isPanic = false :=
  Outcome.plain.isPanic (Plain.applyBuiltin ctx b ps h)

/-- `Value::resolve` on a tree without `Unspecified` node, as a triple: the instance of the traversal
`Closed.eval` from which `eval_no_panic` is read off state by state -/
theorem eval_sat (e : Expr) (h : Compiled e = true) (ctx : Ctx) : Sat (eval ctx e) Any Any :=
  Sat.closed.eval (fun _ _ => trivial) (.compiled fun _ => trivial) e ctx h

/-- `Value::resolve` on a compiled tree, in any context and from any state, never panics -/
theorem eval_no_panic (e : Expr) (h : Compiled e = true) (ctx : Ctx) (st : St Value) :
    ((eval ctx e st).1).isPanic = false :=
  (eval_sat e h ctx).isPanic_eq_false st

/-- `Program::execute` itself: `eval` from the empty state -/
theorem execute_no_panic (e : Expr) (h : Compiled e = true) (ctx : Ctx) :
    ((execute ctx e).1).isPanic = false :=
  eval_no_panic e h ctx {}

/-- the node that `Compiled` excludes does panic -/
theorem unspecified_panics (ctx : Ctx) (st : St Value) :
    ((eval ctx .unspecified st).1).isPanic = true := by
  rw [eval_unspecified]
  rfl

/-- `[1, 2].fold(x, acc = 0, true, acc + x.h("k"), acc)` in macro-expanded form -/
def demo : Expr :=
  .comp "x" (.list [.lit (.int 1), .lit (.int 2)]) "acc" (.lit (.int 0)) (.lit (.bool true))
    (.call "_+_" [.ident "acc", .mcall "h" (.ident "x") [.lit (.str "k".toList)]]) (.ident "acc")

def demoCtx : Ctx := { fns := [("h", .host [.this .int, .pos .str] (.const (.int 10)))] }

example : Compiled demo = true := by decide
example : (execute demoCtx demo).1 = .ok (.int 20) ∧ (execute demoCtx demo).2.log.length = 2 := by
  -- with smart unfolding the elaborator's evaluator is exponential in the number of loop iterations
  set_option smartUnfolding false in
  constructor <;> rfl
example : ((execute demoCtx demo).1).isPanic = false := execute_no_panic demo (by decide) demoCtx
example : (execute {} demo).1 = .err (.undeclared "h") := by rfl
example : ((execute {} demo).1).isPanic = false := execute_no_panic demo (by decide) {}

/-- the shape hypothesis of `applyBuiltin_no_panic` is needed: the arity panic exists -/
example : (applyBuiltin {} .size []).isPanic = true := by rfl
example : MatchesSig Builtin.startsWith.sig [.str "ab".toList, .str "a".toList] := by
  simp [Builtin.sig, MatchesSig, ExtOk, tyOk]

/-- `Compiled` rejects an `unspecified` node also where evaluation would not reach it -/
example : Compiled (.call "_||_" [.lit (.bool true), .unspecified]) = false := by decide
example : ((execute {} (.list [.unspecified])).1).isPanic = true := by rfl

end Cel.Props.C02
