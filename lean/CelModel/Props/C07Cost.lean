import CelModel.Lemmas.Cost
/-!
# C07 (cost) — evaluation work is bounded by program size times collection sizes

`St.steps` is incremented once per evaluated AST node (`M.tick` at the head of every `eval`
clause), so a bound on the step counter is a bound on the number of node evaluations, hence on
host-function invocations.
-/
namespace Cel.Props.C07Cost

/-- a signature that never evaluates an argument twice: no `Arguments` extractor, or nothing
but it -/
def sigLinear (sig : List Extractor) : Bool :=
  sig.all (fun e => e != .allArgs) || sig == [.allArgs]

/-- every host function registered in the context has a linear signature (all built-ins do) -/
def CtxLinear (ctx : Ctx) : Prop :=
  ∀ n sig body, ctx.getFunction n = some (.host sig body) → sigLinear sig = true

theorem builtin_sig_linear (b : Builtin) : sigLinear b.sig = true := by
  cases b <;> rfl

theorem sigLinear_cases {sig : List Extractor} (h : sigLinear sig = true) :
    sig.all (fun e => e != .allArgs) = true ∨ sig = [.allArgs] := by
  unfold sigLinear at h
  rw [Bool.or_eq_true] at h
  rcases h with h | h
  · exact Or.inl h
  · exact Or.inr (eq_of_beq h)

/-! ### a call runs each of its thunks at most once -/

/-- index-wise, because `extract` addresses thunks by index -/
def ThunkCosts (thunks : List (EvalM Value)) (costs : List Nat) : Prop :=
  ∀ (i : Nat) (t : EvalM Value), thunks[i]? = some t → Cost t (costs[i]?.getD 0)

theorem runAll_cost (thunks : List (EvalM Value)) (costs : List Nat)
    (hth : ThunkCosts thunks costs) : Cost (runAll thunks) costs.sum := by
  induction thunks generalizing costs with
  | nil => rw [runAll_nil]; exact Cost.pure
  | cons t ts ih =>
    rw [runAll_cons]
    have h0 := hth 0 t rfl
    have hts : ThunkCosts ts (costs.drop 1) := by
      intro i t' ht'
      have := hth (i + 1) t' (by simpa using ht')
      rw [List.getElem?_drop]
      rw [Nat.add_comm 1 i]
      exact this
    have hs := sum_drop costs 0
    rw [List.drop_zero, Nat.zero_add] at hs
    apply Cost.bind h0 (b := (costs.drop 1).sum) _ (by omega)
    intro v
    exact (ih _ hts).bind_free fun vs => Cost.pure

/-- the cost of one extraction step, in the form that chains: `Consumes.bind` adds the steps up to
`(costs.drop idx).sum` -/
def Consumes (costs : List Nat) (idx : Nat) (m : EvalM (Value × Nat)) : Prop :=
  ∃ c, Cost m c ∧ c ≤ (costs.drop idx).sum ∧
    ∀ p, Ret m p → c + (costs.drop p.2).sum ≤ (costs.drop idx).sum

theorem Consumes.bind {γ : Type} {costs : List Nat} {idx : Nat} {m : EvalM (Value × Nat)}
    {k : Value × Nat → EvalM γ} (hm : Consumes costs idx m)
    (hk : ∀ p, Cost (k p) (costs.drop p.2).sum) : Cost (m >>= k) (costs.drop idx).sum := by
  obtain ⟨c, hc, hle, hidx⟩ := hm
  refine Cost.bind_ret hc (b := (costs.drop idx).sum - c) (fun p hp => ?_) (by omega)
  have := hidx p hp
  exact (hk p).weaken (by omega)

theorem Consumes.throw {costs : List Nat} {idx : Nat} {e : ErrC} :
    Consumes costs idx (M.throw e) :=
  ⟨0, Cost.throw, Nat.zero_le _, fun _ h => h.of_throw.elim⟩

theorem Consumes.pure {costs : List Nat} {idx : Nat} {v : Value} :
    Consumes costs idx (Pure.pure (v, idx + 1)) := by
  refine ⟨0, Cost.pure, Nat.zero_le _, fun p h => ?_⟩
  cases h.of_pure
  have := sum_drop_succ_le costs idx
  dsimp only
  omega

theorem fetch_consumes {thunks : List (EvalM Value)} {costs : List Nat}
    (hth : ThunkCosts thunks costs) {e : ErrC} {conv : Value → Outcome Value} {idx : Nat} :
    Consumes costs idx (fetch thunks e conv idx) := by
  have hs := sum_drop costs idx
  unfold fetch
  split
  · exact Consumes.throw
  · rename_i th hth'
    refine ⟨costs[idx]?.getD 0, ?_, by omega, fun p h => ?_⟩
    · exact (hth idx th hth').bind_free fun a => Cost.lift.bind_free fun v => Cost.pure
    · obtain ⟨a, -, h⟩ := h.of_bind
      obtain ⟨v, -, h⟩ := h.of_bind
      cases h.of_pure
      exact Nat.le_of_eq hs

theorem recv_consumes {costs : List Nat} {conv : Value → Outcome Value} {tv : Value} {idx : Nat} :
    Consumes costs idx (recv conv tv idx) := by
  refine ⟨0, Cost.lift.bind_free fun v => Cost.pure, Nat.zero_le _, fun p h => ?_⟩
  obtain ⟨v, -, h⟩ := h.of_bind
  cases h.of_pure
  exact Nat.le_of_eq (Nat.zero_add _)

theorem fromThis_consumes (this : Option Value) {thunks : List (EvalM Value)} {costs : List Nat}
    (hth : ThunkCosts thunks costs) {conv : Value → Outcome Value} {idx : Nat} :
    Consumes costs idx (fromThis this thunks conv idx) := by
  unfold fromThis
  split
  · exact recv_consumes
  · exact fetch_consumes hth

theorem extractOne_consumes (this : Option Value) {thunks : List (EvalM Value)} (argEs : List Expr)
    {costs : List Nat} (hth : ThunkCosts thunks costs) (ex : Extractor) (hex : ex ≠ .allArgs)
    (idx : Nat) : Consumes costs idx (extractOne this thunks argEs ex idx) := by
  cases ex with
  | this t => exact fromThis_consumes this hth
  | thisOpt t => exact fromThis_consumes this hth
  | pos t => exact fetch_consumes hth
  | posOpt t => exact fetch_consumes hth
  | allArgs => exact absurd rfl hex
  | ident =>
    rw [extractOne]
    split
    · exact Consumes.throw
    · exact Consumes.pure
    · exact Consumes.throw
  | expr =>
    rw [extractOne]
    split
    · exact Consumes.throw
    · exact Consumes.pure

theorem extract_cost (this : Option Value) (thunks : List (EvalM Value)) (argEs : List Expr)
    (costs : List Nat) (hth : ThunkCosts thunks costs)
    (sig : List Extractor) (hsig : sig.all (fun e => e != .allArgs) = true) (idx : Nat) :
    Cost (extract this thunks argEs sig idx) (costs.drop idx).sum := by
  induction sig generalizing idx with
  | nil => rw [extract_nil]; exact Cost.pure
  | cons ex rest ih =>
    rw [List.all_cons, Bool.and_eq_true] at hsig
    rw [extract_cons]
    refine (extractOne_consumes this argEs hth ex (by simpa using hsig.1) idx).bind fun p => ?_
    exact (ih hsig.2 p.2).bind_free fun vs => Cost.pure

theorem extract_linear_cost (this : Option Value) (thunks : List (EvalM Value)) (argEs : List Expr)
    (costs : List Nat) (hth : ThunkCosts thunks costs)
    (sig : List Extractor) (hsig : sigLinear sig = true) :
    Cost (extract this thunks argEs sig 0) costs.sum := by
  rcases sigLinear_cases hsig with h | h
  · have := extract_cost this thunks argEs costs hth sig h 0
    rwa [List.drop_zero] at this
  · subst h
    rw [extract_cons, extractOne]
    refine ((runAll_cost thunks costs hth).bind_free fun vs => Cost.pure).bind_free fun p => ?_
    rw [extract_nil]
    exact Cost.pure.bind_free fun vs => Cost.pure

theorem applyFn_cost (ctx : Ctx) (hl : CtxLinear ctx) (name : String) (k : FnKind)
    (hk : ctx.getFunction name = some k) {this : Option Value}
    (thunks : List (EvalM Value)) (argEs : List Expr) (costs : List Nat)
    (hth : ThunkCosts thunks costs) :
    Cost (applyFn ctx name k this thunks argEs) costs.sum := by
  cases k with
  | builtin b =>
    rw [applyFn_builtin]
    exact (extract_linear_cost this thunks argEs costs hth b.sig (builtin_sig_linear b)).bind_free
      fun ps => Cost.lift
  | host sig body =>
    rw [applyFn_host]
    refine (extract_linear_cost this thunks argEs costs hth sig (hl name sig body hk)).bind_free
      fun ps => Cost.logCall.bind_free fun _ => ?_
    cases body with
    | echo => exact Cost.pure
    | fail => exact Cost.throw
    | const v => exact Cost.pure
    | first => exact Cost.pure

theorem fnCall_cost (ctx : Ctx) (hl : CtxLinear ctx) (f : String) (target : Option (EvalM Value))
    (argEs : List Expr) (thunks : List (EvalM Value)) (costs : List Nat) (ct : Nat)
    (hth : ThunkCosts thunks costs) (htg : ∀ t, target = some t → Cost t ct) :
    Cost (fnCall ctx f target argEs thunks) (ct + costs.sum) := by
  unfold fnCall
  split
  · exact Cost.throw
  · rename_i k hk
    split
    · exact (applyFn_cost ctx hl f k hk thunks argEs costs hth).weaken (by omega)
    · rename_i t
      apply Cost.bind (htg t rfl) _ (Nat.le_refl _)
      intro tv
      exact applyFn_cost ctx hl f k hk thunks argEs costs hth

theorem callNode_cost (ctx : Ctx) (hl : CtxLinear ctx) (f : String) (target : Option (EvalM Value))
    (argEs : List Expr) {thunks : List (EvalM Value)} {costs : List Nat} (ct : Nat)
    (hth : ThunkCosts thunks costs) (htg : ∀ t, target = some t → Cost t ct) :
    Cost (callNode ctx f target argEs thunks) (ct + costs.sum) := by
  -- `costs.sum` in terms of its first three entries, for the `omega`s below
  have s0 := sum_drop costs 0
  have s1 := sum_drop costs 1
  have s2 := sum_drop costs 2
  rw [List.drop_zero] at s0
  simp only [Nat.zero_add, Nat.reduceAdd] at s0 s1 s2
  apply callNode_cases (motive := fun m => Cost m (ct + costs.sum))
  case cond =>
    rintro c a b rfl -
    apply Cost.bind (hth 0 c rfl) (b := costs[1]?.getD 0 + costs[2]?.getD 0) _ (by omega)
    intro cv
    split
    · exact (hth 1 a rfl).weaken (by omega)
    · exact (hth 2 b rfl).weaken (by omega)
  case or =>
    rintro a b rfl -
    apply Cost.bind (hth 0 a rfl) (b := costs[1]?.getD 0) _ (by omega)
    intro l
    split
    · exact Cost.pure
    · exact hth 1 b rfl
  case and =>
    rintro a b rfl -
    apply Cost.bind (hth 0 a rfl) (b := costs[1]?.getD 0) _ (by omega)
    intro l
    split
    · exact Cost.pure
    · exact (hth 1 b rfl).bind_free fun _ => Cost.pure
  case bin =>
    rintro op a b rfl - -
    apply Cost.bind (hth 0 a rfl) (b := costs[1]?.getD 0) _ (by omega)
    intro l
    exact (hth 1 b rfl).bind_free fun _ => Cost.lift
  case un =>
    rintro op a rfl -
    exact ((hth 0 a rfl).bind_free fun _ => Cost.lift).weaken (by omega)
  case fn =>
    intro _
    exact fnCall_cost ctx hl f target argEs thunks costs ct hth htg

theorem evalList_cost (ctx : Ctx) (B : Expr → Nat) {es : List Expr}
    (h : ∀ e ∈ es, Cost (eval ctx e) (B e)) : Cost (evalList ctx es) (es.map B).sum := by
  induction es with
  | nil => rw [evalList_nil]; exact Cost.pure
  | cons e es ih =>
    rw [evalList_cons, List.map_cons, List.sum_cons]
    apply Cost.bind (h e (List.mem_cons_self ..)) _ (Nat.le_refl _)
    intro v
    exact (ih fun e' he' => h e' (List.mem_cons_of_mem _ he')).bind_free fun vs => Cost.pure

theorem thunkCosts_evalThunks (ctx : Ctx) (B : Expr → Nat) {es : List Expr}
    (h : ∀ e ∈ es, Cost (eval ctx e) (B e)) : ThunkCosts (evalThunks ctx es) (es.map B) := by
  intro i t ht
  rw [evalThunks_eq_map, List.getElem?_map] at ht
  rw [List.getElem?_map]
  cases hi : es[i]? with
  | none => rw [hi] at ht; cases ht
  | some e =>
    rw [hi] at ht
    cases ht
    exact h e (List.mem_of_getElem? hi)

theorem evalEntries_cost (ctx : Ctx) (B : Expr → Nat) {es : List (Expr × Expr)}
    (h : ∀ kv ∈ es, Cost (eval ctx kv.1) (B kv.1) ∧ Cost (eval ctx kv.2) (B kv.2)) (acc : MapV) :
    Cost (evalEntries ctx es acc) (es.map fun kv => B kv.1 + B kv.2).sum := by
  induction es generalizing acc with
  | nil => rw [evalEntries_nil]; exact Cost.pure
  | cons kv rest ih =>
    obtain ⟨k, v⟩ := kv
    obtain ⟨hk, hv⟩ := h (k, v) (List.mem_cons_self ..)
    rw [evalEntries_cons, List.map_cons, List.sum_cons]
    dsimp only at hk hv ⊢
    apply Cost.bind hk (b := B v + (rest.map fun kv => B kv.1 + B kv.2).sum) _ (by omega)
    intro kv
    split
    · exact Cost.throw
    · exact Cost.bind hv (fun vv => ih (fun kv' h' => h kv' (List.mem_cons_of_mem _ h')) _)
        (Nat.le_refl _)

theorem call_cost (ctx : Ctx) (hl : CtxLinear ctx) (f : String) (target : Option (EvalM Value))
    (args : List Expr) (B : Expr → Nat) (ct : Nat) (htg : ∀ t, target = some t → Cost t ct)
    (h : ∀ a ∈ args, Cost (eval ctx a) (B a)) :
    Cost (M.tick >>= fun _ => callNode ctx f target args (evalThunks ctx args))
      (1 + ct + (args.map B).sum) :=
  Cost.tick_bind (callNode_cost ctx hl f target args ct (thunkCosts_evalThunks ctx B h) htg)
    (by omega)

theorem loopG_cost' (iv av : String) (evCond evStep : Scope → EvalM Value) (Bc Bs : Nat)
    (hc : ∀ sc, Cost (evCond sc) Bc) (hs : ∀ sc, Cost (evStep sc) Bs)
    (items : List Value) (sc : Scope) :
    Cost (loopG iv av evCond evStep items sc) (items.length * (Bc + Bs)) := by
  induction items generalizing sc with
  | nil =>
    rw [loopG_nil]
    exact Cost.pure
  | cons item rest ih =>
    rw [loopG_cons]
    have hlen : (item :: rest).length * (Bc + Bs) = Bc + (Bs + rest.length * (Bc + Bs)) := by
      rw [List.length_cons, Nat.succ_mul]; omega
    rw [hlen]
    apply Cost.bind (hc sc) _ (Nat.le_refl _)
    intro c
    split
    · exact Cost.pure
    · apply Cost.bind (hs _) _ (Nat.le_refl _)
      intro acc
      exact ih _

/-- `loopG_cost'` with `Cost` written out -/
theorem loopG_cost (iv av : String) (evCond evStep : Scope → EvalM Value) (Bc Bs : Nat)
    (hc : ∀ sc s, (evCond sc s).2.steps ≤ s.steps + Bc)
    (hs : ∀ sc s, (evStep sc s).2.steps ≤ s.steps + Bs)
    (items : List Value) (sc : Scope) (s : St Value) :
    (loopG iv av evCond evStep items sc s).2.steps ≤ s.steps + items.length * (Bc + Bs) :=
  loopG_cost' iv av evCond evStep Bc Bs hc hs items sc s

theorem comp_cost (ctx : Ctx) (iv av : String) (range init cond step result : Expr)
    {Bi Br Bc Bs Bres n : Nat} (hi : Cost (eval ctx init) Bi) (hr : Cost (eval ctx range) Br)
    (hn : ∀ r, Ret (eval ctx range) r →
      (match r with | .list xs => xs.length ≤ n | .map m => m.length ≤ n | _ => True))
    (hc : ∀ sc, Cost (eval (ctx.push sc) cond) Bc) (hs : ∀ sc, Cost (eval (ctx.push sc) step) Bs)
    (hres : ∀ sc, Cost (eval (ctx.push sc) result) Bres) :
    Cost (eval ctx (.comp iv range av init cond step result))
      (1 + Bi + Br + n * (Bc + Bs) + Bres) := by
  rw [eval_comp]
  apply Cost.tick_bind (b := Bi + (Br + (n * (Bc + Bs) + Bres))) _ (by omega)
  apply Cost.bind hi _ (Nat.le_refl _)
  intro vinit
  apply Cost.bind_ret hr _ (Nat.le_refl _)
  intro r hret
  have hrn := hn r hret
  apply Cost.bind_ret (a := 0) (b := n * (Bc + Bs) + Bres) _ _ (by omega)
  · exact rangeOf_cases (motive := (Cost · 0)) r (fun _ => Cost.pure) Cost.throw
  · intro items hit
    have hlen : items.length ≤ n := by
      cases r with
      | list xs =>
        cases (rangeOf_list xs ▸ hit).of_pure
        exact hrn
      | map m =>
        cases (rangeOf_map m ▸ hit).of_pure
        simpa using hrn
      | _ => exact hit.of_throw.elim
    have hmul := Nat.mul_le_mul_right (Bc + Bs) hlen
    exact Cost.bind (loopG_cost' iv av _ _ Bc Bs hc hs items _) (b := Bres) (fun sc => hres sc)
      (by omega)

mutual
def litRanges : Expr → Bool
  | .lit _ => true
  | .ident _ => true
  | .call _ args => litRangesList args
  | .mcall _ t args => litRanges t && litRangesList args
  | .select e _ _ => litRanges e
  | .list es => litRangesList es
  | .map es => litRangesEntries es
  | .struct _ _ vs => litRangesList vs
  | .comp _ range _ init cond step result =>
    (match range with | .list _ => true | _ => false) &&
    litRanges range && litRanges init && litRanges cond && litRanges step && litRanges result
  | .unspecified => true
def litRangesList : List Expr → Bool
  | [] => true
  | e :: es => litRanges e && litRangesList es
def litRangesEntries : List (Expr × Expr) → Bool
  | [] => true
  | (k, v) :: es => litRanges k && litRanges v && litRangesEntries es
end

def rangeLen : Expr → Nat
  | .list es => es.length
  | _ => 0

mutual
/-- the syntactic work bound: every node once, loop condition and step `rangeLen` times -/
def nodeBound : Expr → Nat
  | .lit _ => 1
  | .ident _ => 1
  | .call _ args => 1 + nodeBoundList args
  | .mcall _ t args => 1 + nodeBound t + nodeBoundList args
  | .select e _ _ => 1 + nodeBound e
  | .list es => 1 + nodeBoundList es
  | .map es => 1 + nodeBoundEntries es
  | .struct _ _ vs => 1 + nodeBoundList vs
  | .comp _ range _ init cond step result =>
    1 + nodeBound init + nodeBound range + rangeLen range * (nodeBound cond + nodeBound step)
      + nodeBound result
  | .unspecified => 1
def nodeBoundList : List Expr → Nat
  | [] => 0
  | e :: es => nodeBound e + nodeBoundList es
def nodeBoundEntries : List (Expr × Expr) → Nat
  | [] => 0
  | (k, v) :: es => nodeBound k + nodeBound v + nodeBoundEntries es
end

theorem sum_map_nodeBound (es : List Expr) : (es.map nodeBound).sum = nodeBoundList es := by
  induction es with
  | nil => rw [nodeBoundList]; rfl
  | cons e es ih => rw [nodeBoundList, List.map_cons, List.sum_cons, ih]

theorem sum_map_nodeBoundEntries (es : List (Expr × Expr)) :
    (es.map fun kv => nodeBound kv.1 + nodeBound kv.2).sum = nodeBoundEntries es := by
  induction es with
  | nil => rw [nodeBoundEntries]; rfl
  | cons kv es ih =>
    obtain ⟨k, v⟩ := kv
    rw [nodeBoundEntries, List.map_cons, List.sum_cons, ih]

theorem litRangesList_mem {es : List Expr} (h : litRangesList es = true) :
    ∀ e ∈ es, litRanges e = true :=
  forall_mem_of_and_cons (fun _ _ => by rw [litRangesList]) h

theorem litRangesEntries_mem {es : List (Expr × Expr)} (h : litRangesEntries es = true) :
    ∀ kv ∈ es, (litRanges kv.1 && litRanges kv.2) = true :=
  forall_mem_of_and_cons (fun _ _ => by rw [litRangesEntries]) h

theorem litRanges_comp {iv av : String} {range init cond step result : Expr}
    (h : litRanges (.comp iv range av init cond step result) = true) :
    (∃ es, range = .list es) ∧ litRanges range = true ∧ litRanges init = true ∧
      litRanges cond = true ∧ litRanges step = true ∧ litRanges result = true := by
  unfold litRanges at h
  simp only [Bool.and_eq_true] at h
  obtain ⟨⟨⟨⟨⟨h0, h1⟩, h2⟩, h3⟩, h4⟩, h5⟩ := h
  refine ⟨?_, h1, h2, h3, h4, h5⟩
  cases range <;> first | exact ⟨_, rfl⟩ | cases h0

theorem evalList_length {ctx : Ctx} {es : List Expr} {vs : List Value}
    (h : Ret (evalList ctx es) vs) : vs.length = es.length := by
  induction es generalizing vs with
  | nil =>
    rw [evalList_nil] at h
    cases h.of_pure
    rfl
  | cons e es ih =>
    rw [evalList_cons] at h
    obtain ⟨v, -, h⟩ := h.of_bind
    obtain ⟨vs', hvs', h⟩ := h.of_bind
    cases h.of_pure
    rw [List.length_cons, List.length_cons, ih hvs']

theorem eval_listLit_length (ctx : Ctx) (es : List Expr) (v : Value) :
    Ret (eval ctx (.list es)) v →
    (match v with
      | .list xs => xs.length ≤ es.length
      | .map m => m.length ≤ es.length
      | _ => True) := by
  intro h
  rw [eval_list] at h
  obtain ⟨_, -, h⟩ := h.of_bind
  obtain ⟨vs, hvs, h⟩ := h.of_bind
  cases h.of_pure
  exact Nat.le_of_eq (evalList_length hvs)

theorem eval_cost_nested :
    ∀ e, litRanges e = true → ∀ ctx, CtxLinear ctx → Cost (eval ctx e) (nodeBound e) := by
  apply Expr.ind
  case lit =>
    intro v _ ctx _
    rw [eval_lit, nodeBound]
    exact Cost.tick_bind (b := 0) Cost.pure (Nat.le_refl _)
  case ident =>
    intro n _ ctx _
    rw [eval_ident, nodeBound]
    apply Cost.tick_bind (b := 0) _ (Nat.le_refl _)
    split
    · exact Cost.pure
    · exact Cost.throw
  case call =>
    intro f args ih h ctx hl
    rw [eval_call, nodeBound, ← sum_map_nodeBound]
    exact (call_cost ctx hl f none args nodeBound 0 (fun _ h => nomatch h)
      fun a ha => ih a ha (litRangesList_mem h a ha) ctx hl).weaken (by omega)
  case mcall =>
    intro f t args iht ih h ctx hl
    rw [litRanges, Bool.and_eq_true] at h
    rw [eval_mcall, nodeBound, ← sum_map_nodeBound]
    exact call_cost ctx hl f _ args nodeBound (nodeBound t)
      (by intro t' ht'; cases ht'; exact iht h.1 ctx hl)
      fun a ha => ih a ha (litRangesList_mem h.2 a ha) ctx hl
  case select =>
    intro e field test ih h ctx hl
    rw [eval_select, nodeBound]
    apply Cost.tick_bind (b := nodeBound e) _ (Nat.le_refl _)
    refine (ih h ctx hl).bind_free fun v => ?_
    split
    · exact Cost.pure
    · exact Cost.lift
  case list =>
    intro es ih h ctx hl
    rw [eval_list, nodeBound, ← sum_map_nodeBound]
    apply Cost.tick_bind _ (Nat.le_refl _)
    exact (evalList_cost ctx nodeBound fun e he =>
      ih e he (litRangesList_mem h e he) ctx hl).bind_free fun vs => Cost.pure
  case map =>
    intro es ih h ctx hl
    rw [eval_map, nodeBound, ← sum_map_nodeBoundEntries]
    apply Cost.tick_bind _ (Nat.le_refl _)
    refine (evalEntries_cost ctx nodeBound (fun kv hkv => ?_) []).bind_free fun m => Cost.pure
    have hc := Bool.and_eq_true_iff.mp (litRangesEntries_mem h kv hkv)
    exact ⟨(ih kv hkv).1 hc.1 ctx hl, (ih kv hkv).2 hc.2 ctx hl⟩
  case struct =>
    intro name fields vals _ _ ctx _
    rw [eval_struct, nodeBound]
    exact Cost.tick_bind (b := 0) Cost.throw (by omega)
  case comp =>
    intro iv range av init cond step result ihr ihi ihc ihs ihres h ctx hl
    obtain ⟨⟨es, rfl⟩, hr, hi, hc, hs, hres⟩ := litRanges_comp h
    rw [nodeBound, rangeLen]
    exact comp_cost ctx iv av _ init cond step result (ihi hi ctx hl) (ihr hr ctx hl)
      (eval_listLit_length ctx es)
      (fun _ => ihc hc _ hl) (fun _ => ihs hs _ hl)
      (fun _ => ihres hres _ hl)
  case unspecified =>
    intro _ ctx _
    rw [eval_unspecified]
    exact Cost.lift

/-! ### comprehension-free programs: the bound is the size -/

mutual
def compFree : Expr → Bool
  | .lit _ => true
  | .ident _ => true
  | .call _ args => compFreeList args
  | .mcall _ t args => compFree t && compFreeList args
  | .select e _ _ => compFree e
  | .list es => compFreeList es
  | .map es => compFreeEntries es
  | .struct _ _ vs => compFreeList vs
  | .comp .. => false
  | .unspecified => true
def compFreeList : List Expr → Bool
  | [] => true
  | e :: es => compFree e && compFreeList es
def compFreeEntries : List (Expr × Expr) → Bool
  | [] => true
  | (k, v) :: es => compFree k && compFree v && compFreeEntries es
end

theorem add_congr {a b c d : Nat} (h1 : a = b) (h2 : c = d) : a + c = b + d :=
  h1 ▸ h2 ▸ rfl

mutual
theorem litRanges_of_compFree : ∀ e, compFree e = true → litRanges e = true ∧ nodeBound e = e.size
  | .lit _, _ | .ident _, _ | .unspecified, _ => ⟨rfl, rfl⟩
  | .call _ args, h =>
    have ⟨h1, h2⟩ := litRangesList_of_compFree args h
    ⟨h1, congrArg (1 + ·) h2⟩
  | .mcall _ t args, h =>
    have h := Bool.and_eq_true_iff.1 h
    have ⟨h1, h2⟩ := litRanges_of_compFree t h.1
    have ⟨h3, h4⟩ := litRangesList_of_compFree args h.2
    ⟨Bool.and_eq_true_iff.2 ⟨h1, h3⟩, add_congr (congrArg (1 + ·) h2) h4⟩
  | .select e _ _, h =>
    have ⟨h1, h2⟩ := litRanges_of_compFree e h
    ⟨h1, congrArg (1 + ·) h2⟩
  | .list es, h =>
    have ⟨h1, h2⟩ := litRangesList_of_compFree es h
    ⟨h1, congrArg (1 + ·) h2⟩
  | .map es, h =>
    have ⟨h1, h2⟩ := litRangesEntries_of_compFree es h
    ⟨h1, congrArg (1 + ·) h2⟩
  | .struct _ _ vs, h =>
    have ⟨h1, h2⟩ := litRangesList_of_compFree vs h
    ⟨h1, congrArg (1 + ·) h2⟩
  | .comp .., h => nomatch h
theorem litRangesList_of_compFree : ∀ es, compFreeList es = true →
    litRangesList es = true ∧ nodeBoundList es = sizeList es
  | [], _ => ⟨rfl, rfl⟩
  | e :: es, h =>
    have h := Bool.and_eq_true_iff.1 h
    have ⟨h1, h2⟩ := litRanges_of_compFree e h.1
    have ⟨h3, h4⟩ := litRangesList_of_compFree es h.2
    ⟨Bool.and_eq_true_iff.2 ⟨h1, h3⟩, add_congr h2 h4⟩
theorem litRangesEntries_of_compFree : ∀ es, compFreeEntries es = true →
    litRangesEntries es = true ∧ nodeBoundEntries es = sizeEntries es
  | [], _ => ⟨rfl, rfl⟩
  | (k, v) :: es, h =>
    have h := Bool.and_eq_true_iff.1 h
    have hkv := Bool.and_eq_true_iff.1 h.1
    have ⟨h1, h2⟩ := litRanges_of_compFree k hkv.1
    have ⟨h3, h4⟩ := litRanges_of_compFree v hkv.2
    have ⟨h5, h6⟩ := litRangesEntries_of_compFree es h.2
    ⟨Bool.and_eq_true_iff.2 ⟨Bool.and_eq_true_iff.2 ⟨h1, h3⟩, h5⟩,
      add_congr (add_congr h2 h4) h6⟩
end

theorem eval_cost (e : Expr) (h : compFree e = true) (ctx : Ctx) (hl : CtxLinear ctx) :
    Cost (eval ctx e) e.size := by
  obtain ⟨hlit, hsize⟩ := litRanges_of_compFree e h
  rw [← hsize]
  exact eval_cost_nested e hlit ctx hl

/-- a comprehension-free program performs at most `size e` node evaluations — each
operand at most once, so never exponential in the nesting depth of calls. -/
theorem cost_linear_comprehension_free (e : Expr) (h : compFree e = true) (ctx : Ctx)
    (hl : CtxLinear ctx) (s : St Value) :
    (eval ctx e s).2.steps ≤ s.steps + e.size :=
  eval_cost e h ctx hl s

/-- one macro level: a comprehension whose five parts are comprehension-free costs at most
`1 + size init + size range + n * (size cond + size step) + size result` node evaluations,
where `n` is the number of elements the range evaluated to (or less when it errs). -/
theorem comp_cost_flat (ctx : Ctx) (hl : CtxLinear ctx) (iv av : String)
    (range init cond step result : Expr)
    (hr : compFree range = true) (hi : compFree init = true) (hc : compFree cond = true)
    (hs : compFree step = true) (hres : compFree result = true)
    (s : St Value) (n : Nat)
    (hn : ∀ s0 v s1, eval ctx range s0 = (.ok v, s1) →
      (match v with | .list xs => xs.length ≤ n | .map m => m.length ≤ n | _ => True)) :
    (eval ctx (.comp iv range av init cond step result) s).2.steps ≤
      s.steps + (1 + init.size + range.size + n * (cond.size + step.size) + result.size) :=
  comp_cost ctx iv av range init cond step result (eval_cost init hi ctx hl)
    (eval_cost range hr ctx hl) (fun r ⟨s0, s1, h⟩ => hn s0 r s1 h)
    (fun _ => eval_cost cond hc _ hl)
    (fun _ => eval_cost step hs _ hl)
    (fun _ => eval_cost result hres _ hl) s

/-! ### the log grows no faster than the steps -/

/-- any tree in any context, `unspecified` nodes and non-linear signatures included: the step counter
never decreases and the log grows by at most the growth of the steps -/
theorem eval_logB (e : Expr) (ctx : Ctx) : LogB (eval ctx e) 0 :=
  LogB.closed.eval (fun _ _ => trivial) (.all (fun _ => trivial) fun _ => LogB.lift) e ctx trivial

theorem steps_monotone (e : Expr) (ctx : Ctx) (s : St Value) : s.steps ≤ (eval ctx e s).2.steps :=
  (eval_logB e ctx s).1

/-- each host-function invocation happens inside its own call node, so the number of logged
calls never exceeds the number of node evaluations -/
theorem log_growth_le_steps (e : Expr) (ctx : Ctx) (s : St Value) :
    (eval ctx e s).2.log.length - s.log.length ≤ (eval ctx e s).2.steps - s.steps := by
  have := eval_logB e ctx s
  omega

end Cel.Props.C07Cost
