import CelModel.Lemmas.F64Bits
import CelModel.Lemmas.F64Round
import CelModel.Lemmas.F64Text
/-!
# C13 (continued) — a decimal double literal / `double(string)` text denotes the nearest double

`F64.parse` rounds the exact rational a decimal text denotes once (`roundRatPos`), but clamps
far-away magnitudes first (decimal magnitude above 330: infinity; below -400: zero; exponents of
more than seven significant digits: `±10^7`).  The clamps do not change the answer on the texts
`-?ddd`, `-?ddd.ddd`, `-?ddd[eE][+-]?ddd`, `-?ddd.ddd[eE][+-]?ddd` (a digit before the point or the
exponent; `-` the only leading sign), for the forms with an exponent when the mantissa has at most
`10^6` digits: `parse` returns the rounding of the exact rational (`parseFinExact`), the nearest
double (`parseFinExact_nearest`, `F64.interval_nearest`).  The bound is needed: `1` followed by
`10^7 + 4` zeros with exponent `e-10000005` denotes `0.1` and is read as `10^4`.
-/
namespace Cel.Props.C13
open Cel.F64

/-- a rational at or above `2^1024` overflows to infinity; with `roundRatPos_underflow` this is what
makes the magnitude clamps of `parse` sound -/
theorem roundRatPos_overflow (num den : Nat) (hden : 0 < den) (h : 2 ^ 1024 * den ≤ num) :
    roundRatPos num den = none := by
  open Cel.Lemmas.F64RoundCore in
  have hnum : 0 < num := by omega
  obtain ⟨sa, sb, shI, _, hr, hqb55, hqb1, hqb2, hP1, hP2, _⟩ := round_frame hnum hden
  generalize num * 2 ^ sa / (den * 2 ^ sb) = q at *
  generalize (num * 2 ^ sa % (den * 2 ^ sb) != 0) = st at *
  -- the top bit of the fraction is at `2^1024` or above, so the lsb exponent is `972` or more
  have htop := top_ge 0 ((PL_one_nat 1024).2 h) (Nat.le_refl _) hP2
  rw [hr]
  generalize hb : Nat.log2 q = qb at *
  have hle : (if (qb : Int) - shI - 52 ≥ -1074 then (qb : Int) - shI - 52 else -1074) =
      (qb : Int) - shI - 52 := by
    rw [if_pos (by omega)]
  rw [roundCore_le q st shI _ (qb - 52) (hb ▸ hle) (by omega)]
  apply finish_overflow _ (by omega)
  have hk : 2 ^ 52 ≤ q / 2 ^ (qb - 52) := by
    rw [Nat.le_div_iff_mul_le (Nat.two_pow_pos _), ← Nat.pow_add]
    have : 52 + (qb - 52) = qb := by omega
    rw [this]
    exact hqb1
  split <;> omega

/-- `2^-1076` is less than half the smallest subnormal -/
theorem roundRatPos_underflow (num den : Nat) (hnum : 0 < num) (hden : 0 < den)
    (h : num * 2 ^ 1076 < den) : roundRatPos num den = some 0 := by
  open Cel.Lemmas.F64RoundCore in
  obtain ⟨sa, sb, shI, _, hr, _, _, hqb2, hP1, hP2, _⟩ := round_frame hnum hden
  generalize num * 2 ^ sa / (den * 2 ^ sb) = q at *
  generalize (num * 2 ^ sa % (den * 2 ^ sb) != 0) = st at *
  -- the top bit of the fraction is below `2^-1076`: every bit of `q` is dropped, and `q` is less
  -- than half of what is dropped
  have hnPL : ¬ PL num den (2 ^ 0) (-1076) := by
    unfold PL
    intro h'
    have e1 : (-1076 : Int).toNat = 0 := by decide
    have e2 : (-(-1076 : Int)).toNat = 1076 := by decide
    rw [e1, e2] at h'
    omega
  have htop := top_lt_of_not_PL 0 hnPL hP1
  rw [hr]
  generalize hb : Nat.log2 q = qb at *
  have hle : (if (qb : Int) - shI - 52 ≥ -1074 then (qb : Int) - shI - 52 else -1074) =
      -1074 := by
    rw [if_neg (by omega)]
  obtain ⟨drop, hdrop⟩ : ∃ drop : Nat, (drop : Int) = -1074 + shI := ⟨(-1074 + shI).toNat, by omega⟩
  rw [roundCore_le q st shI _ drop (hb ▸ hle) (by omega)]
  have hlt : q < 2 ^ (drop - 1) :=
    Nat.lt_of_lt_of_le hqb2 (Nat.pow_le_pow_right (by decide) (by omega))
  have hlt2 : q < 2 ^ drop :=
    Nat.lt_of_lt_of_le hlt (Nat.pow_le_pow_right (by decide) (by omega))
  rw [Nat.div_eq_of_lt hlt2, Nat.mod_eq_of_lt hlt2]
  have hup : (decide (q > 2 ^ (drop - 1)) || (q == 2 ^ (drop - 1) && (st || 0 % 2 == 1))) = false := by
    have a1 : decide (q > 2 ^ (drop - 1)) = false := by
      rw [decide_eq_false_iff_not]
      omega
    have a2 : (q == 2 ^ (drop - 1)) = false := by
      rw [beq_eq_false_iff_ne]
      omega
    rw [a1, a2]
    rfl
  rw [hup]
  exact finish_zero

theorem ofRat_dec_overflow (neg : Bool) {mant : Nat} (s : Nat) {e10 : Int} (hs : 10 ^ s ≤ mant)
    (h : (309 : Int) ≤ s + e10) :
    ofRat neg (decRat mant e10).1 (decRat mant e10).2 = if neg then negInfBits else posInfBits := by
  have c := two_pow_1024_le
  have hov : 2 ^ 1024 * (decRat mant e10).2 ≤ (decRat mant e10).1 := by
    generalize 2 ^ 1024 = A at *
    exact decRat_ge c hs h
  unfold ofRat
  rw [roundRatPos_overflow _ _ (decRat_den_pos mant e10) hov]
  cases neg <;> decide

theorem ofRat_dec_underflow (neg : Bool) {mant l : Nat} {e10 : Int} (hm : 0 < mant)
    (hl : mant < 10 ^ l) (h : (l : Int) + e10 ≤ -324) :
    ofRat neg (decRat mant e10).1 (decRat mant e10).2 = if neg then signBit else 0 := by
  have hun : (decRat mant e10).1 * 2 ^ 1076 < (decRat mant e10).2 :=
    decRat_lt two_pow_1076_le hl (by omega)
  have hnum : 0 < (decRat mant e10).1 := by
    unfold decRat
    split
    · exact Nat.mul_pos hm (Nat.pow_pos (by decide))
    · exact hm
  unfold ofRat
  rw [roundRatPos_underflow _ _ hnum (decRat_den_pos mant e10) hun]
  cases neg <;> decide

/-! ## the last stage without clamps; the clamps do not change it -/

/-- the last stage of `parse` without any clamp: round the exact rational `digits × 10^e10` -/
def parseFinExact (neg : Bool) (ip fp : List Char) (ex : Int) : UInt64 :=
  let mant := digitsToNat (ip ++ fp)
  let e10 : Int := ex - (fp.length : Int)
  if mant == 0 then (if neg then signBit else 0)
  else if e10 ≥ 0 then ofRat neg (mant * 10 ^ e10.toNat) 1
  else ofRat neg mant (10 ^ (-e10).toNat)

theorem parseFinExact_eq (neg : Bool) (ip fp : List Char) (ex : Int) :
    parseFinExact neg ip fp ex =
      if digitsToNat (ip ++ fp) = 0 then (if neg then signBit else 0)
      else ofRat neg (decRat (digitsToNat (ip ++ fp)) (ex - fp.length)).1
        (decRat (digitsToNat (ip ++ fp)) (ex - fp.length)).2 := by
  unfold parseFinExact
  simp only [beq_iff_eq, ofRat_decRat]

/-- the magnitude clamps of `F64.parse` are sound -/
theorem parseFin_eq_exact (neg : Bool) (ip fp : List Char) (ex : Int)
    (hip : ∀ c ∈ ip, isDigit c = true) (hfp : ∀ c ∈ fp, isDigit c = true) :
    parseFin neg ip fp ex = parseFinExact neg ip fp ex := by
  have hd := List.forall_mem_append.2 ⟨hip, hfp⟩
  rw [parseFinExact_eq, parseFin_eq]
  by_cases hm : digitsToNat (ip ++ fp) = 0
  · rw [if_pos hm, if_pos hm]
  · rw [if_neg hm, if_neg hm]
    -- `10^(S-1) ≤ mant < 10^L` for the `S` significant and `L` total digits
    have hsp : 0 < ((ip ++ fp).dropWhile (· == '0')).length :=
      Lemmas.DecText.dropZeros_length_pos hm
    have hsig : 10 ^ (((ip ++ fp).dropWhile (· == '0')).length - 1) ≤ digitsToNat (ip ++ fp) :=
      Lemmas.DecText.le_val _ hd hsp
    have hlt : digitsToNat (ip ++ fp) < 10 ^ (ip ++ fp).length := Lemmas.DecText.val_lt hd
    generalize ((ip ++ fp).dropWhile (· == '0')).length = S at *
    generalize (ip ++ fp).length = L at *
    generalize ex - (fp.length : Int) = e10 at *
    by_cases h1 : (S : Int) + e10 > 330
    · rw [if_pos h1, ofRat_dec_overflow neg (S - 1) hsig (by omega)]
    · rw [if_neg h1]
      by_cases h2 : (L : Int) + e10 < -400
      · rw [if_pos h2, ofRat_dec_underflow neg (Nat.pos_of_ne_zero hm) hlt (by omega)]
      · rw [if_neg h2]

/-- the exponent clamp of `F64.parse` is sound for mantissas of up to a million digits -/
theorem parseFinExact_big_exponent (neg : Bool) (ip fp : List Char) (ex : Int)
    (hip : ∀ c ∈ ip, isDigit c = true) (hfp : ∀ c ∈ fp, isDigit c = true)
    (hlen : ip.length + fp.length ≤ 1000000) (hbig : 10000000 ≤ ex.natAbs) :
    parseFinExact neg ip fp ex = parseFinExact neg ip fp (if ex < 0 then -10000000 else 10000000) := by
  have hlt : digitsToNat (ip ++ fp) < 10 ^ (ip ++ fp).length :=
    Lemmas.DecText.val_lt (List.forall_mem_append.2 ⟨hip, hfp⟩)
  rw [List.length_append] at hlt
  rw [parseFinExact_eq, parseFinExact_eq]
  by_cases hm : digitsToNat (ip ++ fp) = 0
  · rw [if_pos hm, if_pos hm]
  · rw [if_neg hm, if_neg hm]
    have hMpos := Nat.pos_of_ne_zero hm
    -- both exponents are beyond every mantissa of a million digits, on the same side
    by_cases hneg : ex < 0
    · rw [if_pos hneg, ofRat_dec_underflow neg hMpos hlt (by omega),
        ofRat_dec_underflow neg hMpos hlt (by omega)]
    · rw [if_neg hneg, ofRat_dec_overflow neg 0 hMpos (by omega),
        ofRat_dec_overflow neg 0 hMpos (by omega)]

theorem parseFinExact_evClamp (neg : Bool) (ip fp ed : List Char) {p : Prop} [Decidable p]
    (hip : ∀ c ∈ ip, isDigit c = true) (hfp : ∀ c ∈ fp, isDigit c = true)
    (hedd : ∀ c ∈ ed, isDigit c = true) (hlen : ip.length + fp.length ≤ 1000000) :
    parseFinExact neg ip fp (if p then -(evClamp ed : Int) else evClamp ed) =
      parseFinExact neg ip fp (if p then -(digitsToNat ed : Int) else digitsToNat ed) := by
  unfold evClamp
  by_cases h : (ed.dropWhile (· == '0')).length > 7
  · rw [if_pos h]
    -- more than seven significant digits denote at least `10^7`
    have h1 : 10 ^ ((ed.dropWhile (· == '0')).length - 1) ≤ digitsToNat ed :=
      Lemmas.DecText.le_val ed hedd (by omega)
    have h2 : 10 ^ 7 ≤ 10 ^ ((ed.dropWhile (· == '0')).length - 1) :=
      Nat.pow_le_pow_right (by decide) (by omega)
    have hN : 10000000 ≤ digitsToNat ed := by omega
    generalize digitsToNat ed = N at *
    by_cases hp : p
    · rw [if_pos hp, if_pos hp,
        parseFinExact_big_exponent neg ip fp (-(N : Int)) hip hfp hlen (by omega), if_pos (by omega)]
      rfl
    · rw [if_neg hp, if_neg hp,
        parseFinExact_big_exponent neg ip fp (N : Int) hip hfp hlen (by omega), if_neg (by omega)]
      rfl
  · have hz : digitsToNat (ed.dropWhile (· == '0')) = digitsToNat ed :=
      Lemmas.DecText.val_dropZeros ed
    rw [if_neg h, hz]

/-- the exponent part of a text: `e`/`E`, an optional sign, digits -/
def expText (upper : Bool) (sign : Option Bool) (ed : List Char) : List Char :=
  (if upper then 'E' else 'e') :: ((match sign with | none => [] | some true => ['-'] | some false => ['+']) ++ ed)

def expValue (sign : Option Bool) (ed : List Char) : Int :=
  if sign = some true then -(digitsToNat ed : Int) else (digitsToNat ed : Int)

theorem expPart_expText (upper : Bool) (sign : Option Bool) (ed : List Char) (hed : ed ≠ [])
    (hedd : ∀ c ∈ ed, isDigit c = true) :
    expPart (expText upper sign ed) =
      some ((if sign = some true then -(evClamp ed : Int) else evClamp ed), []) := by
  have hemp : ed.isEmpty = false := by
    cases ed with
    | nil => exact absurd rfl hed
    | cons _ _ => rfl
  have hx := fun (eneg : Bool) (sg : List Char) (h : signSplit (sg ++ ed) = (eneg, ed)) =>
    expPart_exp (if upper then 'E' else 'e') (by cases upper <;> rfl) h
      (takeDigits_all ed hedd) hemp
  rcases sign with _ | _ | _
  · exact hx false [] (signSplit_digits ed hedd)
  · exact hx false ['+'] (signSplit_plus ed)
  · exact hx true ['-'] (signSplit_minus ed)

theorem expText_head (upper : Bool) (sign : Option Bool) (ed : List Char) (c : Char)
    (h : (expText upper sign ed).head? = some c) : isDigit c = false ∧ c ≠ '.' := by
  cases h
  cases upper <;> decide

/-- `double("-?ddd.ddd[eE][+-]?ddd")` with at most `10^6` mantissa digits is the rounding of the
rational the text denotes, whatever the padding of the exponent and the magnitude -/
theorem parse_dot_exp (neg : Bool) (ip fp ed : List Char) (upper : Bool) (sign : Option Bool)
    (hne : ip ≠ []) (hed : ed ≠ [])
    (hip : ∀ c ∈ ip, isDigit c = true) (hfp : ∀ c ∈ fp, isDigit c = true)
    (hedd : ∀ c ∈ ed, isDigit c = true) (hlen : ip.length + fp.length ≤ 1000000) :
    parse (signCs neg ++ (ip ++ '.' :: (fp ++ expText upper sign ed))) =
      some (parseFinExact neg ip fp (expValue sign ed)) := by
  rw [parse_dot_exp_fin neg ip fp hne hip hfp (expText_head upper sign ed)
      (expPart_expText upper sign ed hed hedd),
    parseFin_eq_exact neg ip fp _ hip hfp, parseFinExact_evClamp neg ip fp ed hip hfp hedd hlen]
  rfl

/-- `-?ddd[eE][+-]?ddd` -/
theorem parse_int_exp (neg : Bool) (ip ed : List Char) (upper : Bool) (sign : Option Bool)
    (hne : ip ≠ []) (hed : ed ≠ [])
    (hip : ∀ c ∈ ip, isDigit c = true) (hedd : ∀ c ∈ ed, isDigit c = true)
    (hlen : ip.length ≤ 1000000) :
    parse (signCs neg ++ (ip ++ expText upper sign ed)) =
      some (parseFinExact neg ip [] (expValue sign ed)) := by
  have hnil : ∀ c ∈ ([] : List Char), isDigit c = true := by simp
  rw [parse_int_exp_fin neg ip hne hip (expText_head upper sign ed)
      (expPart_expText upper sign ed hed hedd),
    parseFin_eq_exact neg ip [] _ hip hnil,
    parseFinExact_evClamp neg ip [] ed hip hnil hedd (by simpa using hlen)]
  rfl

/-- `-?ddd.ddd` and `-?ddd` -/
theorem parse_dot_exact (neg : Bool) (ip fp : List Char) (hne : ip ≠ [])
    (hip : ∀ c ∈ ip, isDigit c = true) (hfp : ∀ c ∈ fp, isDigit c = true) :
    parse (signCs neg ++ (ip ++ '.' :: fp)) = some (parseFinExact neg ip fp 0) := by
  rw [parse_dot neg ip hne hip hfp, parseFin_eq_exact neg ip fp 0 hip hfp]

theorem parse_int_exact (neg : Bool) (ip : List Char) (hne : ip ≠ [])
    (hip : ∀ c ∈ ip, isDigit c = true) :
    parse (signCs neg ++ ip) = some (parseFinExact neg ip [] 0) := by
  rw [parse_int neg ip hne hip, parseFin_eq_exact neg ip [] 0 hip (by simp)]

/-- the exact stage returns the double that owns the rational; that the owner is the nearest
double, ties to even, is `F64.interval_nearest` -/
theorem parseFinExact_nearest (neg : Bool) (ip fp : List Char) (ex : Int) (m : Nat) (e : Int)
    (hv : ValidFin m e)
    (hin : InInterval m e
      (if ex - (fp.length : Int) ≥ 0 then digitsToNat (ip ++ fp) * 10 ^ (ex - (fp.length : Int)).toNat else digitsToNat (ip ++ fp))
      (if ex - (fp.length : Int) ≥ 0 then 1 else 10 ^ (-(ex - (fp.length : Int))).toNat)) :
    parseFinExact neg ip fp ex = UInt64.ofNat (encodePos m e + (if neg then 2 ^ 63 else 0)) := by
  rw [← decRat_fst, ← decRat_snd] at hin
  -- only a non-zero fraction has an owner, so the mantissa is not zero
  have hm : digitsToNat (ip ++ fp) ≠ 0 := by
    intro h0
    refine InInterval_num_pos hv.1 (decRat_den_pos _ _) hin ?_
    rw [h0, decRat_zero_fst]
  rw [parseFinExact_eq, if_neg hm]
  exact ofRat_of_round neg (roundRatPos_of_interval m e hv _ _ (decRat_den_pos _ _) hin)

/-- non-vacuity: `0001.50e0000000001` is 15.0, `1e0000000000000000001` is 10.0 -/
example : parse "0001.50e0000000001".toList = parse "15.0".toList := by decide +kernel
example : parse "1e0000000000000000001".toList = parse "10".toList := by decide +kernel

end Cel.Props.C13
