import CelModel.Props.C03
import CelModel.Lemmas.Typing
import CelModel.Lemmas.AList
/-!
# C03 (continued) — type soundness of the core fragment

A type system for the core fragment (int, uint, double, bool, string, bytes, null, list, map;
arithmetic, comparison, logic, conditional, indexing, membership, field selection, `has`, the
standard functions and the comprehension nodes the macros expand to), and the theorem that a
well-typed program, in a context that supplies its free variables at their types and the standard
functions under their names, never panics: it yields a value of its type, or an error that depends
on the *values* met (overflow, division or remainder by zero, missing key, a conversion or regex
function rejecting its argument, an unordered pair of doubles), never one that signals an ill-formed
program.  `opt τ` is `τ`-or-null, what indexing yields; no rule takes it back to `τ`, so an indexed
element can be compared with `==` or returned, but `l[0] + 1` has no type.
-/
namespace Cel.Props.C03

inductive Ty where
  | int | uint | dbl | bool | str | bytes | null
  | list (t : Ty)
  | map (k : Ty) (v : Ty)
  | opt (t : Ty)
deriving Repr, DecidableEq, Inhabited

def Ty.isKey : Ty → Bool
  | .int | .uint | .bool | .str => true
  | _ => false

def Ty.isNumeric : Ty → Bool
  | .int | .uint | .dbl => true
  | _ => false

def HasTy : Value → Ty → Prop
  | v, .int => ∃ i, v = .int i
  | v, .uint => ∃ n, v = .uint n
  | v, .dbl => ∃ f, v = .dbl f
  | v, .bool => ∃ b, v = .bool b
  | v, .str => ∃ s, v = .str s
  | v, .bytes => ∃ b, v = .bytes b
  | v, .null => v = .null
  | v, .list t => ∃ xs, v = .list xs ∧ ∀ x ∈ xs, HasTy x t
  | v, .map k t => ∃ m, v = .map m ∧ ∀ kv ∈ m, HasTy kv.1.toValue k ∧ HasTy kv.2 t
  | v, .opt t => v = .null ∨ HasTy v t

theorem hasTy_opt {v : Value} {τ : Ty} : HasTy v (.opt τ) ↔ (v = .null ∨ HasTy v τ) := by
  rw [HasTy]
theorem hasTy_list {v : Value} {τ : Ty} :
    HasTy v (.list τ) ↔ ∃ xs, v = .list xs ∧ ∀ x ∈ xs, HasTy x τ := by
  rw [HasTy]
theorem hasTy_map {v : Value} {κ τ : Ty} :
    HasTy v (.map κ τ) ↔ ∃ m, v = .map m ∧ ∀ kv ∈ m, HasTy kv.1.toValue κ ∧ HasTy kv.2 τ := by
  rw [HasTy]

abbrev TEnv := List (String × Ty)

def arithToBin : ArithOp → BinOp
  | .add => .add | .sub => .sub | .mul => .mul | .div => .div | .rem => .rem

inductive BinTy : BinOp → Ty → Ty → Ty → Prop where
  | intArith (op : ArithOp) : BinTy (arithToBin op) .int .int .int
  | uintArith (op : ArithOp) : BinTy (arithToBin op) .uint .uint .uint
  | dblAdd : BinTy .add .dbl .dbl .dbl
  | dblSub : BinTy .sub .dbl .dbl .dbl
  | dblMul : BinTy .mul .dbl .dbl .dbl
  | dblDiv : BinTy .div .dbl .dbl .dbl
  | strCat : BinTy .add .str .str .str
  | listCat (t : Ty) : BinTy .add (.list t) (.list t) (.list t)
  | eq (a b : Ty) : BinTy .eq a b .bool
  | ne (a b : Ty) : BinTy .ne a b .bool
  | ordNum (op : BinOp) (a b : Ty) (hop : op = .lt ∨ op = .le ∨ op = .gt ∨ op = .ge)
      (ha : a.isNumeric = true) (hb : b.isNumeric = true) : BinTy op a b .bool
  | ordStr (op : BinOp) (hop : op = .lt ∨ op = .le ∨ op = .gt ∨ op = .ge) : BinTy op .str .str .bool
  | ordBool (op : BinOp) (hop : op = .lt ∨ op = .le ∨ op = .gt ∨ op = .ge) :
      BinTy op .bool .bool .bool
  | inList (a t : Ty) : BinTy .in_ a (.list t) .bool
  | inMap (a k t : Ty) : BinTy .in_ a (.map k t) .bool
  | inStr : BinTy .in_ .str .str .bool
  | idxList (t : Ty) : BinTy .index (.list t) .int (.opt t)
  | idxStr : BinTy .index .str .int (.opt .str)
  | idxMap (k t a : Ty) (ha : a.isKey = true) : BinTy .index (.map k t) a (.opt t)

inductive UnTy : UnOp → Ty → Ty → Prop where
  | not : UnTy .not .bool .bool
  | negInt : UnTy .neg .int .int
  | negDbl : UnTy .neg .dbl .dbl
  | nsf (a : Ty) : UnTy .notStrictlyFalse a .bool

/-- `recv` tells whether the first type is that of the receiver (`x.f(…)`) or of the first argument
(`f(x, …)`) -/
inductive FnTy : String → (recv : Bool) → List Ty → Ty → Prop where
  | size (recv : Bool) (a : Ty)
      (h : a = .str ∨ a = .bytes ∨ (∃ t, a = .list t) ∨ (∃ k t, a = .map k t)) :
      FnTy "size" recv [a] .int
  | containsList (t a : Ty) : FnTy "contains" true [.list t, a] .bool
  | containsMap (k t a : Ty) (ha : a.isKey = true) : FnTy "contains" true [.map k t, a] .bool
  | containsStr : FnTy "contains" true [.str, .str] .bool
  | containsBytes : FnTy "contains" true [.bytes, .bytes] .bool
  | startsWith : FnTy "startsWith" true [.str, .str] .bool
  | endsWith : FnTy "endsWith" true [.str, .str] .bool
  | matches (recv : Bool) : FnTy "matches" recv [.str, .str] .bool
  | string (recv : Bool) (a : Ty) (h : a = .int ∨ a = .uint ∨ a = .dbl ∨ a = .str ∨ a = .bytes) :
      FnTy "string" recv [a] .str
  | bytes : FnTy "bytes" false [.str] .bytes
  | int (recv : Bool) (a : Ty) (h : a = .int ∨ a = .uint ∨ a = .dbl ∨ a = .str) :
      FnTy "int" recv [a] .int
  | uint (recv : Bool) (a : Ty) (h : a = .int ∨ a = .uint ∨ a = .dbl ∨ a = .str) :
      FnTy "uint" recv [a] .uint
  | double (recv : Bool) (a : Ty) (h : a = .int ∨ a = .uint ∨ a = .dbl ∨ a = .str) :
      FnTy "double" recv [a] .dbl

def TEnv.lookup : TEnv → String → Option Ty
  | [], _ => none
  | (k, t) :: rest, n => if k == n then some t else TEnv.lookup rest n

theorem lookup_cons (Γ : TEnv) (k n : String) (t : Ty) :
    TEnv.lookup ((k, t) :: Γ) n = if k = n then some t else TEnv.lookup Γ n := by
  simp only [TEnv.lookup, beq_iff_eq]

/-- `fns` is the set of registered function names: field selection on a map falls back to a
function value when the field names one, so `m.f` is typed only for `f` outside it -/
inductive HasType (fns : List String) : TEnv → Expr → Ty → Prop where
  | lit (Γ : TEnv) (v : Value) (τ : Ty) (h : HasTy v τ) : HasType fns Γ (.lit v) τ
  | ident (Γ : TEnv) (n : String) (τ : Ty) (h : TEnv.lookup Γ n = some τ) :
      HasType fns Γ (.ident n) τ
  | sub (Γ : TEnv) (e : Expr) (τ : Ty) (h : HasType fns Γ e τ) : HasType fns Γ e (.opt τ)
  | nullOpt (Γ : TEnv) (e : Expr) (τ : Ty) (h : HasType fns Γ e .null) : HasType fns Γ e (.opt τ)
  | bin (Γ : TEnv) (f : String) (op : BinOp) (a b : Expr) (τa τb τ : Ty)
      (hf : binOpOfName f = some op) (hop : op ≠ .and ∧ op ≠ .or) (hty : BinTy op τa τb τ)
      (ha : HasType fns Γ a τa) (hb : HasType fns Γ b τb) : HasType fns Γ (.call f [a, b]) τ
  | and (Γ : TEnv) (f : String) (a b : Expr) (hf : binOpOfName f = some .and)
      (ha : HasType fns Γ a .bool) (hb : HasType fns Γ b .bool) :
      HasType fns Γ (.call f [a, b]) .bool
  | or (Γ : TEnv) (f : String) (a b : Expr) (hf : binOpOfName f = some .or)
      (ha : HasType fns Γ a .bool) (hb : HasType fns Γ b .bool) :
      HasType fns Γ (.call f [a, b]) .bool
  | un (Γ : TEnv) (f : String) (op : UnOp) (a : Expr) (τa τ : Ty)
      (hf : unOpOfName f = some op) (hty : UnTy op τa τ) (ha : HasType fns Γ a τa) :
      HasType fns Γ (.call f [a]) τ
  | cond (Γ : TEnv) (c a b : Expr) (τ : Ty) (hc : HasType fns Γ c .bool)
      (ha : HasType fns Γ a τ) (hb : HasType fns Γ b τ) : HasType fns Γ (.call condName [c, a, b]) τ
  | list (Γ : TEnv) (es : List Expr) (τ : Ty) (h : ∀ e ∈ es, HasType fns Γ e τ) :
      HasType fns Γ (.list es) (.list τ)
  | map (Γ : TEnv) (es : List (Expr × Expr)) (κ τ : Ty) (hk : κ.isKey = true)
      (hkeys : ∀ kv ∈ es, HasType fns Γ kv.1 κ) (hvals : ∀ kv ∈ es, HasType fns Γ kv.2 τ) :
      HasType fns Γ (.map es) (.map κ τ)
  | select (Γ : TEnv) (e : Expr) (f : Str) (τ : Ty) (hf : String.ofList f ∉ fns)
      (h : HasType fns Γ e (.map .str τ)) : HasType fns Γ (.select e f false) τ
  | has (Γ : TEnv) (e : Expr) (f : Str) (τ : Ty) (h : HasType fns Γ e τ) :
      HasType fns Γ (.select e f true) .bool
  | fnGlobal (Γ : TEnv) (f : String) (args : List Expr) (τs : List Ty) (τ : Ty)
      (hty : FnTy f false τs τ) (hlen : args.length = τs.length)
      (h : ∀ i (hi : i < args.length), HasType fns Γ args[i] (τs[i]'(hlen ▸ hi))) :
      HasType fns Γ (.call f args) τ
  | fnMember (Γ : TEnv) (f : String) (t : Expr) (args : List Expr) (τt : Ty) (τs : List Ty) (τ : Ty)
      (hty : FnTy f true (τt :: τs) τ) (hlen : args.length = τs.length)
      (ht : HasType fns Γ t τt)
      (h : ∀ i (hi : i < args.length), HasType fns Γ args[i] (τs[i]'(hlen ▸ hi))) :
      HasType fns Γ (.mcall f t args) τ
  /-- the loop condition and the result are evaluated both before the iteration variable is bound
  and after, so they are typed in both environments -/
  | compList (Γ : TEnv) (iv av : String) (range init cond step result : Expr) (σ α ρ : Ty)
      (hne : iv ≠ av)
      (hrange : HasType fns Γ range (.list σ))
      (hinit : HasType fns Γ init α)
      (hcond0 : HasType fns ((av, α) :: Γ) cond .bool)
      (hcond1 : HasType fns ((av, α) :: (iv, σ) :: Γ) cond .bool)
      (hstep : HasType fns ((av, α) :: (iv, σ) :: Γ) step α)
      (hres0 : HasType fns ((av, α) :: Γ) result ρ)
      (hres1 : HasType fns ((av, α) :: (iv, σ) :: Γ) result ρ) :
      HasType fns Γ (.comp iv range av init cond step result) ρ
  /-- a macro over a map ranges over its keys -/
  | compMap (Γ : TEnv) (iv av : String) (range init cond step result : Expr) (σ τv α ρ : Ty)
      (hne : iv ≠ av)
      (hrange : HasType fns Γ range (.map σ τv))
      (hinit : HasType fns Γ init α)
      (hcond0 : HasType fns ((av, α) :: Γ) cond .bool)
      (hcond1 : HasType fns ((av, α) :: (iv, σ) :: Γ) cond .bool)
      (hstep : HasType fns ((av, α) :: (iv, σ) :: Γ) step α)
      (hres0 : HasType fns ((av, α) :: Γ) result ρ)
      (hres1 : HasType fns ((av, α) :: (iv, σ) :: Γ) result ρ) :
      HasType fns Γ (.comp iv range av init cond step result) ρ

def CtxOk (Γ : TEnv) (ctx : Ctx) : Prop :=
  ∀ n τ, TEnv.lookup Γ n = some τ → ∃ v, ctx.getVariable n = some v ∧ HasTy v τ

def StdFns (ctx : Ctx) : Prop :=
  ctx.getFunction "size" = some (.builtin .size) ∧
  ctx.getFunction "contains" = some (.builtin .contains) ∧
  ctx.getFunction "startsWith" = some (.builtin .startsWith) ∧
  ctx.getFunction "endsWith" = some (.builtin .endsWith) ∧
  ctx.getFunction "matches" = some (.builtin .matches) ∧
  ctx.getFunction "string" = some (.builtin .string) ∧
  ctx.getFunction "bytes" = some (.builtin .bytes) ∧
  ctx.getFunction "int" = some (.builtin .int) ∧
  ctx.getFunction "uint" = some (.builtin .uint) ∧
  ctx.getFunction "double" = some (.builtin .double)

/-- errors that depend on the values met, not on the shape of the program.  `functionError` and
`notcomparable` are also what an ill-typed `size(1)` or `"a" < 1` gives, so the theorem does not
need the premises of `FnTy` and `BinTy.ordNum` that restrict the argument types. -/
def ValueErr : ErrC → Prop
  | .overflow | .div0 | .rem0 | .nosuchkey | .functionError | .notcomparable => True
  | .needRegex _ _ => True
  | _ => False

/-! The same sweep over the operators and built-ins as `Lemmas/Plain.lean`, with the typed conclusion `OutOk`. -/
open Cel.Typing

def OutOk (o : Outcome Value) (τ : Ty) : Prop :=
  match o with
  | .ok v => HasTy v τ
  | .err e => ValueErr e
  | .panic _ => False

abbrev TSat (m : EvalM Value) (τ : Ty) : Prop := Sat m (fun v => HasTy v τ) ValueErr

theorem sat_lift_typed {o : Outcome Value} {τ : Ty} (h : OutOk o τ) :
    Sat (M.lift o : EvalM Value) (fun v => HasTy v τ) ValueErr := by
  apply Sat.lift
  cases o <;> exact h

theorem intArith_typed (op : ArithOp) (i j : Int) :
    OutOk ((intArith op i j).map Value.int) .int := by
  fun_cases intArith op i j <;> first | exact ⟨_, rfl⟩ | trivial

theorem uintArith_typed (op : ArithOp) (i j : Int) :
    OutOk ((uintArith op i j).map Value.uint) .uint := by
  fun_cases uintArith op i j <;> first | exact ⟨_, rfl⟩ | trivial

theorem applyBin_rel_typed {op : BinOp} (hop : op = .lt ∨ op = .le ∨ op = .gt ∨ op = .ge)
    {a b : Value} : OutOk (applyBin op a b) .bool := by
  have : applyBin op a b = relOp op a b := by
    rcases hop with rfl | rfl | rfl | rfl <;> rfl
  rw [this]
  unfold relOp
  split
  · trivial
  · rcases hop with rfl | rfl | rfl | rfl <;> exact ⟨_, rfl⟩

theorem inOp_typed {a b : Value} : OutOk (inOp a b) .bool := by
  fun_cases inOp a b <;> first | exact ⟨_, rfl⟩ | trivial

theorem getD_typed {m : MapV} {κ τ : Ty} (hm : ∀ kv ∈ m, HasTy kv.1.toValue κ ∧ HasTy kv.2 τ)
    {k : Key} : HasTy ((MapV.get m k).getD .null) (.opt τ) := by
  rw [hasTy_opt]
  cases h : MapV.get m k with
  | none => exact Or.inl rfl
  | some v =>
    obtain ⟨k', hk'⟩ := get_mem h
    exact Or.inr (hm _ hk').2

theorem applyBin_typed {op : BinOp} {τa τb τ : Ty} (hty : BinTy op τa τb τ) {a b : Value}
    (ha : HasTy a τa) (hb : HasTy b τb) : OutOk (applyBin op a b) τ := by
  cases hty with
  | intArith aop =>
    obtain ⟨i, rfl⟩ := ha
    obtain ⟨j, rfl⟩ := hb
    have : applyBin (arithToBin aop) (.int i) (.int j) = (intArith aop i j).map .int := by
      cases aop <;> rfl
    rw [this]
    exact intArith_typed aop i j
  | uintArith aop =>
    obtain ⟨i, rfl⟩ := ha
    obtain ⟨j, rfl⟩ := hb
    have : applyBin (arithToBin aop) (.uint i) (.uint j) = (uintArith aop i j).map .uint := by
      cases aop <;> rfl
    rw [this]
    exact uintArith_typed aop i j
  | dblAdd | dblSub | dblMul | dblDiv | strCat =>
    obtain ⟨i, rfl⟩ := ha
    obtain ⟨j, rfl⟩ := hb
    exact ⟨_, rfl⟩
  | listCat t =>
    obtain ⟨xs, rfl, hxs⟩ := hasTy_list.mp ha
    obtain ⟨ys, rfl, hys⟩ := hasTy_list.mp hb
    show HasTy (.list (xs ++ ys)) (.list t)
    rw [hasTy_list]
    refine ⟨_, rfl, ?_⟩
    intro x hx
    rcases List.mem_append.mp hx with hx | hx
    · exact hxs x hx
    · exact hys x hx
  | eq => exact ⟨_, rfl⟩
  | ne => exact ⟨_, rfl⟩
  | ordNum op a b hop _ _ => exact applyBin_rel_typed hop
  | ordStr op hop => exact applyBin_rel_typed hop
  | ordBool op hop => exact applyBin_rel_typed hop
  | inList => exact inOp_typed
  | inMap => exact inOp_typed
  | inStr => exact inOp_typed
  | idxList t =>
    obtain ⟨xs, rfl, hxs⟩ := hasTy_list.mp ha
    obtain ⟨i, rfl⟩ := hb
    simp only [applyBin, indexOp]
    split
    · show HasTy _ (.opt t)
      rw [hasTy_opt]
      cases h : xs[i.toNat]? with
      | none => exact Or.inl rfl
      | some x => exact Or.inr (hxs x (List.mem_of_getElem? h))
    · exact hasTy_opt.mpr (Or.inl rfl)
  | idxStr =>
    obtain ⟨s, rfl⟩ := ha
    obtain ⟨i, rfl⟩ := hb
    simp only [applyBin, indexOp]
    split
    · split
      · exact hasTy_opt.mpr (Or.inr ⟨_, rfl⟩)
      · exact hasTy_opt.mpr (Or.inl rfl)
    · exact hasTy_opt.mpr (Or.inl rfl)
  | idxMap k t a hkey =>
    obtain ⟨m, rfl, hm⟩ := hasTy_map.mp ha
    cases τb <;> simp only [Ty.isKey] at hkey <;> try (exact absurd hkey (by decide))
    all_goals
      obtain ⟨x, rfl⟩ := hb
      exact getD_typed hm

theorem applyUn_typed {op : UnOp} {τa τ : Ty} (hty : UnTy op τa τ) {a : Value}
    (ha : HasTy a τa) : OutOk (applyUn op a) τ := by
  cases hty with
  | not => exact ⟨_, rfl⟩
  | negInt =>
    obtain ⟨i, rfl⟩ := ha
    simp only [applyUn, intNeg, chk]
    split <;> first | exact ⟨_, rfl⟩ | trivial
  | negDbl =>
    obtain ⟨i, rfl⟩ := ha
    exact ⟨_, rfl⟩
  | nsf => cases a <;> exact ⟨_, rfl⟩

theorem sizeFn_typed (v : Value) : OutOk (sizeFn v) .int := by
  cases v <;> first | exact ⟨_, rfl⟩ | trivial

theorem stringFn_typed (v : Value) : OutOk (stringFn v) .str := by
  cases v <;> first | exact ⟨_, rfl⟩ | trivial

theorem doubleFn_typed (v : Value) : OutOk (doubleFn v) .dbl := by
  fun_cases doubleFn v <;> first | exact ⟨_, rfl⟩ | trivial

theorem intFn_typed (v : Value) : OutOk (intFn v) .int := by
  fun_cases intFn v <;> first | exact ⟨_, rfl⟩ | trivial

theorem uintFn_typed (v : Value) : OutOk (uintFn v) .uint := by
  fun_cases uintFn v <;> first | exact ⟨_, rfl⟩ | trivial

/-- `contains` fails with a bad-key error only for a map receiver and a non-key argument -/
theorem containsFn_typed (t a : Value) (h : (∃ m, t = .map m) → a.toKey? ≠ none) :
    OutOk (containsFn t a) .bool := by
  fun_cases containsFn t a
  -- a map receiver and a non-key argument
  case case3 hnone => exact absurd hnone (h ⟨_, rfl⟩)
  all_goals exact ⟨_, rfl⟩

theorem toKey?_of_isKey {a : Ty} (ha : a.isKey = true) {v : Value} (hv : HasTy v a) :
    v.toKey? ≠ none := by
  cases a <;> simp only [Ty.isKey] at ha <;> try (exact absurd ha (by decide))
  all_goals
    obtain ⟨x, rfl⟩ := hv
    simp [Value.toKey?]

def ExtCompat (t : ExtTy) (a : Ty) : Prop := ∀ v, HasTy v a → fromValue t v = .ok v

theorem extCompat_value (a : Ty) : ExtCompat .value a := fun v _ => C07.fromValue_value v

theorem extCompat_str : ExtCompat .str .str := by
  rintro v ⟨s, rfl⟩
  rfl

/-! ### the standard functions: from a rule of `FnTy` to the built-in and its signature -/

/-- how the typed arguments of a standard function reach the built-in `b`: the shape of its
signature, that extraction accepts the typed values, that the built-in keeps the type -/
inductive ArgsOk (b : Builtin) (τ : Ty) : Bool → List Ty → Prop where
  | this1 (recv : Bool) (t : ExtTy) (a : Ty) (hsig : b.sig = [.this t]) (hc : ExtCompat t a)
      (hsem : ∀ ctx v, HasTy v a → OutOk (applyBuiltin ctx b [v]) τ) : ArgsOk b τ recv [a]
  | pos1 (t : ExtTy) (a : Ty) (hsig : b.sig = [.pos t]) (hc : ExtCompat t a)
      (hsem : ∀ ctx v, HasTy v a → OutOk (applyBuiltin ctx b [v]) τ) : ArgsOk b τ false [a]
  | thisPos (recv : Bool) (t t2 : ExtTy) (a a2 : Ty) (hsig : b.sig = [.this t, .pos t2])
      (hc : ExtCompat t a) (hc2 : ExtCompat t2 a2)
      (hsem : ∀ ctx v w, HasTy v a → HasTy w a2 → OutOk (applyBuiltin ctx b [v, w]) τ) :
      ArgsOk b τ recv [a, a2]

/-- the names and built-ins of `StdFns` -/
def stdTable : List (String × Builtin) :=
  [("size", .size), ("contains", .contains), ("startsWith", .startsWith), ("endsWith", .endsWith),
    ("matches", .matches), ("string", .string), ("bytes", .bytes), ("int", .int), ("uint", .uint),
    ("double", .double)]

theorem stdTable_no_operator :
    ∀ p ∈ stdTable, (p.1 == condName) = false ∧ binOpOfName p.1 = none ∧ unOpOfName p.1 = none := by
  decide +kernel

def FnSpec (f : String) (b : Builtin) : Prop := (f, b) ∈ stdTable

instance (f : String) (b : Builtin) : Decidable (FnSpec f b) := inferInstanceAs (Decidable (_ ∈ _))

theorem StdFns.table {ctx : Ctx} (hs : StdFns ctx) :
    ∀ p ∈ stdTable, ctx.getFunction p.1 = some (.builtin p.2) := by
  simp only [stdTable, List.forall_mem_cons, List.not_mem_nil, false_imp_iff, implies_true,
    and_true]
  exact hs

theorem FnSpec.std {f : String} {b : Builtin} (h : FnSpec f b) {ctx : Ctx} (hs : StdFns ctx) :
    ctx.getFunction f = some (.builtin b) :=
  hs.table (f, b) h

theorem FnSpec.reaches {f : String} {b : Builtin} (h : FnSpec f b) {n : Nat} : ReachesFn f n :=
  .of_never (stdTable_no_operator (f, b) h)

theorem matches_typed (ctx : Ctx) (v w : Value) (hv : HasTy v .str) (hw : HasTy w .str) :
    OutOk (applyBuiltin ctx .matches [v, w]) .bool := by
  obtain ⟨s, rfl⟩ := hv
  obtain ⟨p, rfl⟩ := hw
  simp only [applyBuiltin]
  split <;> first | exact ⟨_, rfl⟩ | trivial

theorem contains_argsOk {a a2 : Ty}
    (h : ∀ v w, HasTy v a → HasTy w a2 → (∃ m, v = .map m) → w.toKey? ≠ none) :
    ArgsOk .contains .bool true [a, a2] :=
  .thisPos true .value .value _ _ rfl (extCompat_value _) (extCompat_value _)
    fun _ v w hv hw => containsFn_typed v w (h v w hv hw)

theorem fnTy_spec {f : String} {recv : Bool} {τs : List Ty} {τ : Ty} (h : FnTy f recv τs τ) :
    ∃ b, FnSpec f b ∧ ArgsOk b τ recv τs := by
  cases h with
  | size recv a h =>
    exact ⟨.size, by decide,
      .this1 recv .value a rfl (extCompat_value a) (fun _ v _ => sizeFn_typed v)⟩
  | containsList t a =>
    refine ⟨.contains, by decide, contains_argsOk fun v w hv _ ⟨m, hm⟩ => ?_⟩
    obtain ⟨xs, rfl, _⟩ := hasTy_list.mp hv
    cases hm
  | containsMap k t a ha =>
    exact ⟨.contains, by decide, contains_argsOk fun _ _ _ hw _ => toKey?_of_isKey ha hw⟩
  | containsStr | containsBytes =>
    refine ⟨.contains, by decide, contains_argsOk fun v w hv _ ⟨m, hm⟩ => ?_⟩
    obtain ⟨s, rfl⟩ := hv
    cases hm
  | startsWith =>
    refine ⟨.startsWith, by decide, .thisPos true .str .str _ _ rfl extCompat_str extCompat_str ?_⟩
    rintro _ v w ⟨s, rfl⟩ ⟨p, rfl⟩
    exact ⟨_, rfl⟩
  | endsWith =>
    refine ⟨.endsWith, by decide, .thisPos true .str .str _ _ rfl extCompat_str extCompat_str ?_⟩
    rintro _ v w ⟨s, rfl⟩ ⟨p, rfl⟩
    exact ⟨_, rfl⟩
  | «matches» recv =>
    exact ⟨.matches, by decide, .thisPos recv .str .str _ _ rfl extCompat_str extCompat_str
      matches_typed⟩
  | string recv a h =>
    exact ⟨.string, by decide, .this1 recv .value a rfl (extCompat_value a)
      (fun _ v _ => stringFn_typed v)⟩
  | bytes =>
    refine ⟨.bytes, by decide, .pos1 .str _ rfl extCompat_str ?_⟩
    rintro _ v ⟨s, rfl⟩
    exact ⟨_, rfl⟩
  | int recv a h =>
    exact ⟨.int, by decide, .this1 recv .value a rfl (extCompat_value a) (fun _ v _ => intFn_typed v)⟩
  | uint recv a h =>
    exact ⟨.uint, by decide,
      .this1 recv .value a rfl (extCompat_value a) (fun _ v _ => uintFn_typed v)⟩
  | double recv a h =>
    exact ⟨.double, by decide, .this1 recv .value a rfl (extCompat_value a)
      (fun _ v _ => doubleFn_typed v)⟩

theorem applyFn_global_typed (ctx : Ctx) (f : String) {b : Builtin} {τ : Ty} {τs : List Ty}
    (h : ArgsOk b τ false τs) (args : List Expr) (hlen : args.length = τs.length)
    (hth : ∀ i (hi : i < args.length), TSat (eval ctx args[i]) (τs[i]'(hlen ▸ hi))) :
    TSat (applyFn ctx f (.builtin b) none (evalThunks ctx args) args) τ := by
  rw [applyFn_builtin]
  cases h with
  | this1 _ t a hsig hc hsem =>
    obtain ⟨x, rfl⟩ := List.length_eq_one_iff.1 hlen
    have hx : TSat (eval ctx x) a := hth 0 (by simp)
    rw [evalThunks_one, hsig]
    apply Sat.bind
    · exact extract_cons_sat (this_arg_sat rfl hx hc) extract_nil_sat
    · rintro ps ⟨v, _, rfl, hv, rfl⟩
      exact sat_lift_typed (hsem ctx v hv)
  | pos1 t a hsig hc hsem =>
    obtain ⟨x, rfl⟩ := List.length_eq_one_iff.1 hlen
    have hx : TSat (eval ctx x) a := hth 0 (by simp)
    rw [evalThunks_one, hsig]
    apply Sat.bind
    · exact extract_cons_sat (pos_arg_sat rfl hx hc) extract_nil_sat
    · rintro ps ⟨v, _, rfl, hv, rfl⟩
      exact sat_lift_typed (hsem ctx v hv)
  | thisPos _ t t2 a a2 hsig hc hc2 hsem =>
    obtain ⟨x, y, rfl⟩ := List.eq_of_length_eq_two hlen
    have hx : TSat (eval ctx x) a := hth 0 (by simp)
    have hy : TSat (eval ctx y) a2 := hth 1 (by simp)
    rw [evalThunks_two, hsig]
    apply Sat.bind
    · exact extract_cons_sat (this_arg_sat rfl hx hc)
        (extract_cons_sat (pos_arg_sat rfl hy hc2) extract_nil_sat)
    · rintro ps ⟨v, _, rfl, hv, w, _, rfl, hw, rfl⟩
      exact sat_lift_typed (hsem ctx v w hv hw)

theorem applyFn_member_typed (ctx : Ctx) (f : String) {b : Builtin} {τ τt : Ty} {τs : List Ty}
    (h : ArgsOk b τ true (τt :: τs)) (tv : Value) (htv : HasTy tv τt)
    (args : List Expr) (hlen : args.length = τs.length)
    (hth : ∀ i (hi : i < args.length), TSat (eval ctx args[i]) (τs[i]'(hlen ▸ hi))) :
    TSat (applyFn ctx f (.builtin b) (some tv) (evalThunks ctx args) args) τ := by
  rw [applyFn_builtin]
  cases h with
  | this1 _ t a hsig hc hsem =>
    cases List.eq_nil_of_length_eq_zero hlen
    rw [evalThunks_nil, hsig]
    apply Sat.bind
    · exact extract_cons_sat (this_recv_sat (hc tv htv)) extract_nil_sat
    · rintro ps ⟨_, _, rfl, rfl, rfl⟩
      exact sat_lift_typed (hsem ctx tv htv)
  | thisPos _ t t2 a a2 hsig hc hc2 hsem =>
    obtain ⟨x, rfl⟩ := List.length_eq_one_iff.1 hlen
    have hx : TSat (eval ctx x) a2 := hth 0 (by simp)
    rw [evalThunks_one, hsig]
    apply Sat.bind
    · exact extract_cons_sat (this_recv_sat (hc tv htv))
        (extract_cons_sat (pos_arg_sat rfl hx hc2) extract_nil_sat)
    · rintro ps ⟨_, _, rfl, rfl, w, _, rfl, hw, rfl⟩
      exact sat_lift_typed (hsem ctx tv w htv hw)

/-- before the first element: the scope binds the accumulator only -/
def Sc0 (av : String) (α : Ty) (sc : Scope) : Prop :=
  (∃ v, Ctx.lookupScope sc av = some v ∧ HasTy v α) ∧ ∀ n, n ≠ av → Ctx.lookupScope sc n = none

/-- from the first element on: the scope binds the accumulator and the iteration variable -/
def Sc1 (iv av : String) (σ α : Ty) (sc : Scope) : Prop :=
  (∃ v, Ctx.lookupScope sc av = some v ∧ HasTy v α) ∧
  (∃ w, Ctx.lookupScope sc iv = some w ∧ HasTy w σ) ∧
  ∀ n, n ≠ av → n ≠ iv → Ctx.lookupScope sc n = none

theorem ctxOk_push0 {Γ : TEnv} {ctx : Ctx} (hctx : CtxOk Γ ctx) {av : String} {α : Ty} {sc : Scope}
    (h : Sc0 av α sc) : CtxOk ((av, α) :: Γ) (ctx.push sc) := by
  intro n τ hn
  rw [lookup_cons] at hn
  rw [Ctx.getVariable_push]
  split at hn
  · rename_i heq
    subst heq
    cases hn
    obtain ⟨v, hv, hty⟩ := h.1
    exact ⟨v, by rw [hv], hty⟩
  · rename_i hne
    rw [h.2 n (fun e => hne e.symm)]
    exact hctx n τ hn

theorem ctxOk_push1 {Γ : TEnv} {ctx : Ctx} (hctx : CtxOk Γ ctx) {iv av : String} {σ α : Ty}
    {sc : Scope} (h : Sc1 iv av σ α sc) : CtxOk ((av, α) :: (iv, σ) :: Γ) (ctx.push sc) := by
  intro n τ hn
  rw [lookup_cons] at hn
  rw [Ctx.getVariable_push]
  split at hn
  · rename_i heq
    subst heq
    cases hn
    obtain ⟨v, hv, hty⟩ := h.1
    exact ⟨v, by rw [hv], hty⟩
  · rename_i hne
    rw [lookup_cons] at hn
    split at hn
    · rename_i heq
      subst heq
      cases hn
      obtain ⟨w, hw, hty⟩ := h.2.1
      exact ⟨w, by rw [hw], hty⟩
    · rename_i hne2
      rw [h.2.2 n (fun e => hne e.symm) (fun e => hne2 e.symm)]
      exact hctx n τ hn

theorem sc0_init (av : String) (α : Ty) (v : Value) (hv : HasTy v α) : Sc0 av α [(av, v)] := by
  refine ⟨⟨v, by simp [Ctx.lookupScope], hv⟩, ?_⟩
  intro n hn
  simp [Ctx.lookupScope, hn.symm]

theorem sc1_insert_iv {iv av : String} {σ α : Ty} (hne : iv ≠ av) {sc : Scope}
    (h : Sc0 av α sc ∨ Sc1 iv av σ α sc) {item : Value} (hitem : HasTy item σ) :
    Sc1 iv av σ α (Ctx.scopeInsert sc iv item) := by
  have hav : ∃ v, Ctx.lookupScope sc av = some v ∧ HasTy v α := h.elim (·.1) (·.1)
  have hother : ∀ n, n ≠ av → n ≠ iv → Ctx.lookupScope sc n = none :=
    h.elim (fun h0 n h1 _ => h0.2 n h1) (·.2.2)
  refine ⟨?_, ⟨item, ?_, hitem⟩, ?_⟩
  · rw [Ctx.lookup_scopeInsert, if_neg (fun e => hne e.symm)]
    exact hav
  · rw [Ctx.lookup_scopeInsert, if_pos rfl]
  · intro n h1 h2
    rw [Ctx.lookup_scopeInsert, if_neg h2]
    exact hother n h1 h2

theorem sc1_insert_av {iv av : String} {σ α : Ty} (hne : iv ≠ av) {sc : Scope}
    (h : Sc1 iv av σ α sc) {acc : Value} (hacc : HasTy acc α) :
    Sc1 iv av σ α (Ctx.scopeInsert sc av acc) := by
  refine ⟨⟨acc, ?_, hacc⟩, ?_, ?_⟩
  · rw [Ctx.lookup_scopeInsert, if_pos rfl]
  · rw [Ctx.lookup_scopeInsert, if_neg hne]
    exact h.2.1
  · intro n h1 h2
    rw [Ctx.lookup_scopeInsert, if_neg h1]
    exact h.2.2 n h1 h2

/-! ### soundness, by induction on the typing derivation -/

structure Env (fns : List String) (Γ : TEnv) (ctx : Ctx) : Prop where
  fns : ∀ n, ctx.hasFunction n = true → n ∈ fns
  std : StdFns ctx
  vars : CtxOk Γ ctx

theorem Env.push {fns : List String} {Γ Γ' : TEnv} {ctx : Ctx} (h : Env fns Γ ctx) {sc : Scope}
    (hv : CtxOk Γ' (ctx.push sc)) : Env fns Γ' (ctx.push sc) :=
  ⟨h.fns, h.std, hv⟩

def Sound (fns : List String) (Γ : TEnv) (e : Expr) (τ : Ty) : Prop :=
  ∀ ⦃ctx : Ctx⦄, Env fns Γ ctx → TSat (eval ctx e) τ

theorem sound_comp {fns : List String} {Γ : TEnv} {iv av : String}
    {range init cond step result : Expr} {τr σ α ρ : Ty} (hne : iv ≠ av)
    (hr : ∀ r, HasTy r τr → (∃ xs, r = .list xs ∧ ∀ x ∈ xs, HasTy x σ) ∨
      (∃ m, r = .map m ∧ ∀ kv ∈ m, HasTy kv.1.toValue σ))
    (hrange : Sound fns Γ range τr)
    (hinit : Sound fns Γ init α)
    (hcond0 : Sound fns ((av, α) :: Γ) cond .bool)
    (hcond1 : Sound fns ((av, α) :: (iv, σ) :: Γ) cond .bool)
    (hstep : Sound fns ((av, α) :: (iv, σ) :: Γ) step α)
    (hres0 : Sound fns ((av, α) :: Γ) result ρ)
    (hres1 : Sound fns ((av, α) :: (iv, σ) :: Γ) result ρ) :
    Sound fns Γ (.comp iv range av init cond step result) ρ := by
  intro ctx henv
  rw [eval_comp]
  apply Sat.tick_bind
  apply Sat.bind (hinit henv); intro vinit hvinit
  apply Sat.bind (hrange henv); intro r hrty
  apply Sat.bind (Q := fun items => ∀ x ∈ items, HasTy x σ)
  · rcases hr r hrty with ⟨xs, rfl, hxs⟩ | ⟨m, rfl, hm⟩
    · exact Sat.pure hxs
    · apply Sat.pure
      intro x hx
      obtain ⟨kv, hkv, rfl⟩ := List.mem_map.mp hx
      exact hm kv hkv
  · intro items hitems
    refine Sat.bind (loopG_inv iv av (fun sc => Sc0 av α sc ∨ Sc1 iv av σ α sc)
      (fun x => HasTy x σ) ?loopCond ?loopStep items hitems [(av, vinit)]
      (Or.inl (sc0_init av α vinit hvinit))) ?loopResult
    case loopCond =>
      intro sc hsc
      rcases hsc with h0 | h1
      · exact (hcond0 (henv.push (ctxOk_push0 henv.vars h0))).weaken
          (fun _ _ => trivial) (fun _ h => h)
      · exact (hcond1 (henv.push (ctxOk_push1 henv.vars h1))).weaken
          (fun _ _ => trivial) (fun _ h => h)
    case loopStep =>
      intro sc item hsc hitem
      have h1 := sc1_insert_iv hne hsc hitem
      exact (hstep (henv.push (ctxOk_push1 henv.vars h1))).weaken
        (fun acc hacc => Or.inr (sc1_insert_av hne h1 hacc)) (fun _ h => h)
    case loopResult =>
      intro sc hsc
      rcases hsc with h0 | h1
      · exact hres0 (henv.push (ctxOk_push0 henv.vars h0))
      · exact hres1 (henv.push (ctxOk_push1 henv.vars h1))

theorem soundness_aux {fns : List String} {Γ : TEnv} {e : Expr} {τ : Ty}
    (h : HasType fns Γ e τ) : Sound fns Γ e τ := by
  induction h with
  | lit Γ v τ h =>
    intro ctx _
    rw [eval_lit]
    exact Sat.tick_bind (Sat.pure h)
  | ident Γ n τ h =>
    intro ctx henv
    obtain ⟨v, hv, hty⟩ := henv.vars n τ h
    rw [eval_ident]
    apply Sat.tick_bind
    rw [hv]
    exact Sat.pure hty
  | sub Γ e τ _ ih =>
    intro ctx henv
    exact (ih henv).weaken (fun v hv => hasTy_opt.mpr (Or.inr hv)) (fun _ h => h)
  | nullOpt Γ e τ _ ih =>
    intro ctx henv
    exact (ih henv).weaken (fun v hv => hasTy_opt.mpr (Or.inl hv)) (fun _ h => h)
  | bin Γ f op a b τa τb τ hf hop hty _ _ iha ihb =>
    intro ctx henv
    rw [eval_call]
    apply Sat.tick_bind
    rw [evalThunks_two, callNode_bin ctx f op none hf hop]
    apply Sat.bind (iha henv); intro l hl
    apply Sat.bind (ihb henv); intro r hr
    exact sat_lift_typed (applyBin_typed hty hl hr)
  | and Γ f a b hf _ _ iha ihb =>
    intro ctx henv
    rw [eval_call]
    apply Sat.tick_bind
    rw [evalThunks_two, callNode_and ctx f none hf]
    apply Sat.bind (iha henv); intro l hl
    split
    · exact Sat.pure ⟨_, rfl⟩
    · apply Sat.bind (ihb henv); intro r hr
      exact Sat.pure ⟨_, rfl⟩
  | or Γ f a b hf _ _ iha ihb =>
    intro ctx henv
    rw [eval_call]
    apply Sat.tick_bind
    rw [evalThunks_two, callNode_or ctx f none hf]
    apply Sat.bind (iha henv); intro l hl
    split
    · exact Sat.pure hl
    · exact ihb henv
  | un Γ f op a τa τ hf hty _ iha =>
    intro ctx henv
    rw [eval_call]
    apply Sat.tick_bind
    rw [evalThunks_one, callNode_un ctx f op none hf]
    apply Sat.bind (iha henv); intro v hv
    exact sat_lift_typed (applyUn_typed hty hv)
  | cond Γ c a b τ _ _ _ ihc iha ihb =>
    intro ctx henv
    rw [eval_call]
    apply Sat.tick_bind
    rw [evalThunks_three, callNode_cond]
    apply Sat.bind (ihc henv); intro cv _
    split
    · exact iha henv
    · exact ihb henv
  | list Γ es τ _ ih =>
    intro ctx henv
    rw [eval_list]
    apply Sat.tick_bind
    apply Sat.bind (evalList_sat ctx es (fun e he => ih e he henv)); intro vs hvs
    exact Sat.pure (hasTy_list.mpr ⟨vs, rfl, hvs⟩)
  | map Γ es κ τ hk _ _ ihk ihv =>
    intro ctx henv
    rw [eval_map]
    apply Sat.tick_bind
    apply Sat.bind (evalEntries_sat ctx es (fun kv h => ihk kv h henv)
      (fun kv h => ihv kv h henv) (fun v hv => toKey?_of_isKey hk hv) []
      (fun _ h => nomatch h))
    intro m hm
    exact Sat.pure (hasTy_map.mpr ⟨m, rfl, hm⟩)
  | select Γ e f τ hf _ ih =>
    intro ctx henv
    rw [eval_select]
    apply Sat.tick_bind
    apply Sat.bind (ih henv); intro v hv
    obtain ⟨m, rfl, hm⟩ := hasTy_map.mp hv
    apply sat_lift_typed
    simp only [member]
    cases hfind : MapV.find? m (Key.str f) with
    | some c =>
      obtain ⟨k', hk'⟩ := find?_mem hfind
      exact (hm _ hk').2
    | none =>
      have hnf : ctx.hasFunction (String.ofList f) = false :=
        Bool.eq_false_iff.mpr fun hh => hf (henv.fns _ hh)
      simp only [hnf]
      trivial
  | has Γ e f τ _ ih =>
    intro ctx henv
    rw [eval_select]
    apply Sat.tick_bind
    apply Sat.bind (ih henv)
    intro v _
    apply Sat.pure
    fun_cases hasField v f <;> exact ⟨_, rfl⟩
  | fnGlobal Γ f args τs τ hty hlen _ ih =>
    intro ctx henv
    obtain ⟨b, hspec, hargs⟩ := fnTy_spec hty
    rw [eval_call]
    apply Sat.tick_bind
    rw [callNode_fn ctx f none args hspec.reaches]
    simp only [fnCall, hspec.std henv.std]
    exact applyFn_global_typed ctx f hargs args hlen (fun i hi => ih i hi henv)
  | fnMember Γ f t args τt τs τ hty hlen _ _ iht ih =>
    intro ctx henv
    obtain ⟨b, hspec, hargs⟩ := fnTy_spec hty
    rw [eval_mcall]
    apply Sat.tick_bind
    rw [callNode_fn ctx f _ args hspec.reaches]
    simp only [fnCall, hspec.std henv.std]
    apply Sat.bind (iht henv); intro tv htv
    exact applyFn_member_typed ctx f hargs tv htv args hlen
      (fun i hi => ih i hi henv)
  | compList Γ iv av range init cond step result σ α ρ hne _ _ _ _ _ _ _
      ihr ihi ihc0 ihc1 ihs ihr0 ihr1 =>
    exact sound_comp hne (fun r hr => Or.inl (hasTy_list.mp hr)) ihr ihi ihc0 ihc1 ihs ihr0 ihr1
  | compMap Γ iv av range init cond step result σ τv α ρ hne _ _ _ _ _ _ _
      ihr ihi ihc0 ihc1 ihs ihr0 ihr1 =>
    refine sound_comp hne (fun r hr => Or.inr ?_) ihr ihi ihc0 ihc1 ihs ihr0 ihr1
    obtain ⟨m, rfl, hm⟩ := hasTy_map.mp hr
    exact ⟨m, rfl, fun kv hkv => (hm kv hkv).1⟩

/-- a well-typed program, in a context that fits its typing environment and registers the standard
functions, does not panic: it yields a value of its type or a value-dependent error -/
theorem type_soundness (fns : List String) (Γ : TEnv) (e : Expr) (τ : Ty)
    (h : HasType fns Γ e τ) (ctx : Ctx) (hfns : ∀ n, ctx.hasFunction n = true → n ∈ fns)
    (hstd : StdFns ctx) (hctx : CtxOk Γ ctx) :
    Sat (eval ctx e) (fun v => HasTy v τ) ValueErr :=
  soundness_aux h ⟨hfns, hstd, hctx⟩

/-- the same as a statement about `Program::execute` -/
theorem well_typed_execute (fns : List String) (Γ : TEnv) (e : Expr) (τ : Ty)
    (h : HasType fns Γ e τ) (ctx : Ctx) (hfns : ∀ n, ctx.hasFunction n = true → n ∈ fns)
    (hstd : StdFns ctx) (hctx : CtxOk Γ ctx) :
    match (execute ctx e).1 with
    | .ok v => HasTy v τ
    | .err err => ValueErr err
    | .panic _ => False := by
  have hs := type_soundness fns Γ e τ h ctx hfns hstd hctx {}
  rw [execute_eq]
  generalize eval ctx e {} = r at hs ⊢
  obtain ⟨o, s⟩ := r
  cases o <;> exact hs

example : HasType [] [] (.call "_+_" [.lit (.int 1), .lit (.int 2)]) .int :=
  .bin _ _ .add _ _ .int .int .int (by decide) (by decide) (.intArith .add) (.lit _ _ _ ⟨1, rfl⟩)
    (.lit _ _ _ ⟨2, rfl⟩)

example :
    HasType ["size"] [("l", .list .int)] (.call "_[_]" [.ident "l", .lit (.int 0)]) (.opt .int) :=
  .bin _ _ .index _ _ (.list .int) .int _ (by decide) (by decide) (.idxList .int) (.ident _ _ _ rfl)
    (.lit _ _ _ ⟨0, rfl⟩)

end Cel.Props.C03
