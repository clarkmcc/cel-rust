import CelModel.Lemmas.Sat
/-!
# C20 — function calls bind receiver and arguments predictably

For a signature `This<T>, positional…` the two call styles are the same computation, because
positional extraction does not see an extra leading argument (`extract_shift`).
-/
namespace Cel.Props.C20

/-- extractors that neither look at the receiver nor at all arguments at once -/
def positionalOnly : List Extractor → Bool
  | [] => true
  | .pos _ :: r => positionalOnly r
  | .posOpt _ :: r => positionalOnly r
  | .ident :: r => positionalOnly r
  | .expr :: r => positionalOnly r
  | _ => false

theorem positionalOnly_tail {ex : Extractor} {rest : List Extractor}
    (h : positionalOnly (ex :: rest) = true) : positionalOnly rest = true := by
  cases ex <;> first | exact h | cases h

theorem fetch_shift (t0 : EvalM Value) (thunks : List (EvalM Value)) (e : ErrC)
    (conv : Value → Outcome Value) (idx : Nat) :
    fetch (t0 :: thunks) e conv (idx + 1) =
      fetch thunks e conv idx >>= fun p => pure (p.1, p.2 + 1) := by
  unfold fetch
  rw [List.getElem?_cons_succ]
  cases thunks[idx]? with
  | none => rfl
  | some th => simp only [M.bind_assoc, M.pure_bind]

/-- a positional extractor only looks at the argument at `idx`: an extra leading argument shifts
the indices by one; the receiver is irrelevant -/
theorem extractOne_shift (t0 : EvalM Value) (e0 : Expr) (thunks : List (EvalM Value))
    (argEs : List Expr) (this1 this2 : Option Value) (ex : Extractor) (rest : List Extractor)
    (h : positionalOnly (ex :: rest) = true) (idx : Nat) :
    extractOne this1 (t0 :: thunks) (e0 :: argEs) ex (idx + 1) =
      extractOne this2 thunks argEs ex idx >>= fun p => pure (p.1, p.2 + 1) := by
  cases ex with
  | pos t => exact fetch_shift ..
  | posOpt t => exact fetch_shift ..
  | ident =>
    rw [extractOne, extractOne, List.getElem?_cons_succ]
    cases argEs[idx]? with
    | none => rfl
    | some e => cases e <;> rfl
  | expr =>
    rw [extractOne, extractOne, List.getElem?_cons_succ]
    cases argEs[idx]? <;> rfl
  | this t => cases h
  | thisOpt t => cases h
  | allArgs => cases h

theorem extract_shift (t0 : EvalM Value) (e0 : Expr) (thunks : List (EvalM Value))
    (argEs : List Expr) (this1 this2 : Option Value) :
    ∀ (sig : List Extractor) (idx : Nat), positionalOnly sig = true →
      extract this1 (t0 :: thunks) (e0 :: argEs) sig (idx + 1) =
        extract this2 thunks argEs sig idx := by
  intro sig
  induction sig with
  | nil =>
    intro idx _
    rw [extract_nil, extract_nil]
  | cons ex rest ih =>
    intro idx h
    rw [extract_cons, extract_cons, extractOne_shift t0 e0 thunks argEs this1 this2 ex rest h,
      M.bind_assoc]
    apply M.bind_congr
    intro p
    rw [M.pure_bind, ih p.2 (positionalOnly_tail h)]

/-- for a function whose signature is `This<T>` followed by positional parameters, `x.f(args)` and
`f(x, args)` are the same computation: outcome, host-call log and step count -/
theorem receiver_style_equiv (ctx : Ctx) (f : String) (x : Expr) (args : List Expr)
    (k : FnKind) (ty : ExtTy) (rest : List Extractor)
    (hf : ctx.getFunction f = some k)
    (hsig : sigOf k = .this ty :: rest)
    (hrest : positionalOnly rest = true)
    (hop : (f == condName) = false ∧ binOpOfName f = none ∧ unOpOfName f = none) :
    eval ctx (.mcall f x args) = eval ctx (.call f (x :: args)) := by
  rw [eval_mcall, eval_call, callNode_fn _ _ _ _ (.of_never hop),
    callNode_fn _ _ _ _ (.of_never hop),
    evalThunks_cons]
  simp only [fnCall, hf, applyFn_eq, hsig]
  apply M.bind_congr
  intro _
  -- receiver style converts the receiver's value; call style fetches it as argument 0 first
  simp only [extract_cons, extractOne_this_some, extractOne_this_none, fetch, recv,
    List.getElem?_cons_zero, M.bind_assoc, M.pure_bind]
  apply M.bind_congr
  intro tv
  apply M.bind_congr
  intro v
  rw [extract_shift (eval ctx x) x (evalThunks ctx args) args none (some tv) rest 0 hrest]

/-- every built-in that operates on a receiver has exactly that shape -/
theorem builtin_receiver_shapes (b : Builtin) :
    (∃ ty rest, b.sig = .this ty :: rest ∧ positionalOnly rest = true) ∨
    positionalOnly b.sig = true ∨ b.sig = [.allArgs] := by
  cases b
  case max | min => exact .inr (.inr rfl)
  case bytes | duration | timestamp => exact .inr (.inl rfl)
  all_goals exact .inl ⟨_, _, rfl, rfl⟩

/-- when `extract` returns, the parameters it hands to a function body have the number and the kinds
the signature declares (`MatchesSig`: what `FromValue` lets through for each parameter type), and it
never panics.  Which argument each value comes from is not part of the statement. -/
theorem host_receives_declared_types (this : Option Value) (thunks : List (EvalM Value))
    (argEs : List Expr) (hth : ∀ t ∈ thunks, Sat t Any Any) (sig : List Extractor) :
    Sat (extract this thunks argEs sig 0) (fun ps => C02.MatchesSig sig ps) Any :=
  (Sat.closed.extract (fun _ _ => trivial) this hth argEs sig 0).of_ret fun _ => extract_ret

/-- a host function whose first parameter is positional, called with no argument and no receiver:
`InvalidArgumentCount`, in the unchanged state (the body is not invoked, nothing is logged) -/
theorem missing_argument_is_error (ctx : Ctx) (name : String) (t : ExtTy) (rest : List Extractor)
    (body : HostBody) (st : St Value) :
    applyFn ctx name (.host (.pos t :: rest) body) none [] [] st = (.err .badArgc, st) :=
  rfl

/-- a host function whose first parameter is `This<T>`, called with no argument and no receiver:
`MissingArgumentOrTarget`, in the unchanged state -/
theorem missing_target_is_error (ctx : Ctx) (name : String) (t : ExtTy) (rest : List Extractor)
    (body : HostBody) (st : St Value) :
    applyFn ctx name (.host (.this t :: rest) body) none [] [] st = (.err .missingTarget, st) :=
  rfl

/-- never a coercion: a value that `FromValue` lets through is returned unchanged -/
theorem fromValue_exact (t : ExtTy) (v w : Value) (h : fromValue t v = .ok w) : w = v := by
  revert h
  fun_cases fromValue t v
  all_goals intro h
  all_goals cases h
  all_goals rfl

/-- the only failure of `FromValue` is `UnexpectedType`.  On which kinds it fails is not said here; it
enters `host_receives_declared_types` through `tyOk`. -/
theorem fromValue_mismatch_is_error (t : ExtTy) (v : Value) :
    (∃ w, fromValue t v = .ok w) ∨ fromValue t v = .err .badType := by
  fun_cases fromValue t v
  case case11 => exact Or.inr rfl
  -- the ten arms where the kind is the declared one
  all_goals exact Or.inl ⟨_, rfl⟩

/-- the registry is searched from the front: an entry put in front under a name is the one found -/
theorem registered_name_replaces (fns : List (String × FnKind)) (n : String) (k : FnKind) :
    Ctx.lookupFn ((n, k) :: fns) n = some k := by
  simp [Ctx.lookupFn]

/-- … and the lookup of any other name passes over it -/
theorem registration_leaves_others (fns : List (String × FnKind)) (n m : String) (k : FnKind)
    (h : n ≠ m) : Ctx.lookupFn ((n, k) :: fns) m = Ctx.lookupFn fns m := by
  simp [Ctx.lookupFn, h]

/-! ### non-vacuity: `size` in both call styles -/
example :
    let ctx : Ctx := { fns := [("size", .builtin .size)] }
    eval ctx (.mcall "size" (.lit (.list [.int 1])) []) =
      eval ctx (.call "size" [.lit (.list [.int 1])]) := by
  intro ctx
  apply receiver_style_equiv ctx "size" _ [] (.builtin .size) .value []
  · simp [ctx, Ctx.getFunction, Ctx.lookupFn]
  · rfl
  · rfl
  · simp [condName, binOpOfName, unOpOfName]

end Cel.Props.C20
