import CelModel.Lemmas.Monad
import CelModel.Lemmas.NumLemmas
import CelModel.Lemmas.Conv
import CelModel.Lemmas.Utf8
import CelModel.Lemmas.OfIntNearest
/-!
# C13 — numeric literals and conversions preserve the number or fail

Literal decoding is `Parser.intLiteral` / `uintLiteral` (`visit_Int` / `visit_Uint`), the
conversions are `intFn`, `uintFn`, `doubleFn`, `stringFn` (`functions.rs`).  Decimal text is
`natToDec` / `intToDec` (= `Nat.repr`, i.e. `Nat.toDigits 10`), hexadecimal text is
`Nat.toDigits 16`.
-/
namespace Cel.Props.C13
open Cel.Lemmas.Digits Cel.Lemmas.Conv

/-- `visit_Int` on the decimal text of `n` (one text per number, `natToDec n`: no leading zeros) gives
exactly `n`, for every `n` within range -/
theorem int_literal_exact (n : Nat) (h : (n : Int) ≤ i64Max) :
    Parser.intLiteral false (natToDec n) = some (.lit (.int n)) := by
  simp [intLiteral_natToDec, inI64_natCast, h]

/-- … including negative ones, down to the most negative int written as a signed literal -/
theorem int_literal_signed_exact (n : Nat) (h : (n : Int) ≤ i64Max + 1) :
    Parser.intLiteral true (natToDec n) = some (.lit (.int (-(n : Int)))) := by
  simp [intLiteral_natToDec, inI64_neg_natCast, h]

/-- the decimal text of a number beyond the range of its sign is rejected by `visit_Int` (for uints:
`uint_literal_out_of_range_rejected`); hexadecimal text is covered by neither -/
theorem int_literal_out_of_range_rejected (n : Nat) :
    ((n : Int) > i64Max → Parser.intLiteral false (natToDec n) = none) ∧
    ((n : Int) > i64Max + 1 → Parser.intLiteral true (natToDec n) = none) := by
  constructor
  · intro h
    simp [intLiteral_natToDec, inI64_natCast, Int.not_le.2 h]
  · intro h
    simp [intLiteral_natToDec, inI64_neg_natCast, Int.not_le.2 h]

/-- `0x…` int literals of either sign, within the range of that sign -/
theorem hex_int_literal_exact (n : Nat) (neg : Bool)
    (h : if neg then (n : Int) ≤ i64Max + 1 else (n : Int) ≤ i64Max) :
    Parser.intLiteral neg ('0' :: 'x' :: Nat.toDigits 16 n) =
      some (.lit (.int (if neg then -(n : Int) else n))) := by
  cases neg
  · simp [intLiteral_hex, inI64_natCast, show (n : Int) ≤ i64Max from h]
  · simp [intLiteral_hex, inI64_neg_natCast, show (n : Int) ≤ i64Max + 1 from h]

/-- uint literals, decimal and hexadecimal, with either suffix -/
theorem uint_literal_exact (n : Nat) (h : (n : Int) ≤ u64Max) (suffix : Char) :
    Parser.uintLiteral (natToDec n ++ [suffix]) = some (.lit (.uint n)) ∧
    Parser.uintLiteral ('0' :: 'x' :: Nat.toDigits 16 n ++ [suffix]) = some (.lit (.uint n)) := by
  rw [uintLiteral_dec, uintLiteral_hex]
  simp [inU64_natCast, h]

theorem uint_literal_out_of_range_rejected (n : Nat) (h : (n : Int) > u64Max) (suffix : Char) :
    Parser.uintLiteral (natToDec n ++ [suffix]) = none := by
  simp [uintLiteral_dec, inU64_natCast, Int.not_le.2 h]

/-! ## conversions from double: truncation toward zero, or an error — never saturation -/

def truncOf (neg : Bool) (m : Nat) (e : Int) : Int := F64.sgn neg (F64.truncMag m e)

/-- the magnitude `int(f)` / `uint(f)` keep of a finite double `±m·2^e`: for `e ≥ 0` the value itself,
else the integer `t` with `t ≤ m·2^e < t + 1`: toward zero, losing less than one unit -/
theorem trunc_toward_zero (m : Nat) (e : Int) :
    (0 ≤ e → F64.truncMag m e = m * 2 ^ e.toNat) ∧
    (e < 0 → F64.truncMag m e * 2 ^ (-e).toNat ≤ m ∧ m < (F64.truncMag m e + 1) * 2 ^ (-e).toNat) := by
  constructor
  · intro h; simp [F64.truncMag, h]
  · intro h
    have hne : ¬ e ≥ 0 := by omega
    simp only [F64.truncMag, hne, if_false]
    have hd : 0 < 2 ^ (-e).toNat := Nat.pow_pos (by decide)
    generalize 2 ^ (-e).toNat = d at *
    have h1 := Nat.div_add_mod m d
    have h2 := Nat.mod_lt m hd
    rw [Nat.add_mul, Nat.mul_comm (m / d) d]
    omega

theorem int_of_double_spec (b : UInt64) :
    intFn (.dbl b) =
      match F64.decode b with
      | .fin neg m e =>
        if inI64 (truncOf neg m e) then .ok (.int (truncOf neg m e)) else .err .functionError
      | _ => .err .functionError := by
  cases h : F64.decode b with
  | nan => simp [intFn, F64.truncToInt, h]
  | inf neg => simp [intFn, F64.truncToInt, h]
  | fin neg m e =>
    simp only [intFn, F64.truncToInt, h, truncOf]
    rfl

/-- uint(): accepted exactly for 0 ≤ f < 2^64 (so −0.0 gives 0 and −0.5 is an error) -/
theorem uint_of_double_spec (b : UInt64) :
    uintFn (.dbl b) =
      match F64.decode b with
      | .fin neg m e =>
        if (neg = false ∨ m = 0) ∧ (F64.truncMag m e : Int) ≤ u64Max
        then .ok (.uint (F64.truncMag m e)) else .err .functionError
      | _ => .err .functionError := by
  cases h : F64.decode b with
  | nan => simp [uintFn, F64.truncToInt, h]
  | inf neg => simp [uintFn, F64.truncToInt, h]
  | fin neg m e =>
    simp only [uintFn, F64.truncToInt, h, cmp_zero_gt]
    cases neg with
    | false => simp [F64.sgn]
    | true =>
      by_cases hm : m = 0
      · subst hm
        simp [F64.sgn, truncMag_zero]
      · simp [hm]

/-- `int(f)` and `uint(f)` of NaN and of either infinity are errors (Rust's bare `as` would give 0 and
the saturated bounds) -/
theorem nan_inf_rejected (b : UInt64) (h : F64.isFinite b = false) :
    intFn (.dbl b) = .err .functionError ∧ uintFn (.dbl b) = .err .functionError := by
  unfold F64.isFinite at h
  cases hd : F64.decode b
  case fin => simp [hd] at h
  all_goals simp [intFn, uintFn, F64.truncToInt, hd]

/-- int ↔ uint: the same number or an error -/
theorem int_uint_cross_spec (i n : Int) :
    intFn (.uint n) = (if inI64 n then .ok (.int n) else .err .functionError) ∧
    uintFn (.int i) = (if inU64 i then .ok (.uint i) else .err .functionError) ∧
    intFn (.int i) = .ok (.int i) ∧ uintFn (.uint n) = .ok (.uint n) := by
  simp [intFn, uintFn]

/-- `double(i)` is exact for `|i| ≤ 2^53`: the exact rational key of the double is that of the int
(beyond, it is the nearest double, ties to even: C13b) -/
theorem double_of_int_exact_small (i : Int) (h : i.natAbs ≤ 2 ^ 53) :
    F64.keyD (F64.decode (F64.ofInt i)) = some (F64.keyI i) :=
  Cel.Lemmas.OfInt.double_of_int_exact_small i h

/-- `int(string(i))` is `i` for every int; likewise `uint(string(n))` below -/
theorem string_int_roundtrip (i : Int) (h : inI64 i = true) :
    (stringFn (.int i)).bind intFn = .ok (.int i) := by
  simp only [stringFn, Outcome.bind_ok, intFn, intToDec]
  by_cases hneg : i < 0
  · rw [if_pos hneg, parseIntText_neg_dec]
    have : -((i.natAbs : Nat) : Int) = i := by omega
    simp [this, h]
  · rw [if_neg hneg, parseIntText_dec]
    have : ((i.natAbs : Nat) : Int) = i := by omega
    simp [this, h]

theorem string_uint_roundtrip (n : Nat) (h : inU64 n = true) :
    (stringFn (.uint n)).bind uintFn = .ok (.uint n) := by
  simp only [stringFn, Outcome.bind_ok, uintFn, intToDec]
  have hneg : ¬ ((n : Int) < 0) := by omega
  simp only [hneg, if_false, Int.natAbs_natCast, parseIntText_dec, h, if_true]

/-- UTF-8: decoding the encoding of a string gives the string back, so
`string(bytes(s)) == s` for every string -/
theorem utf8_roundtrip (s : Str) : bytesToStrLossy (strToBytes s) = s :=
  Cel.Lemmas.Utf8.utf8_roundtrip s

theorem string_bytes_roundtrip (s : Str) :
    (applyBuiltin {} .bytes [.str s]).bind stringFn = .ok (.str s) := by
  simp only [applyBuiltin, Outcome.bind_ok, stringFn, utf8_roundtrip]

end Cel.Props.C13
