import CelModel.Lemmas.ParserInv
/-!
# C01 — a text that is not one complete CEL expression is never accepted

About the acceptance behaviour of the parser model `Parser.compile` (lexer + grammar + visitor
checks; tied to the real ANTLR-based parser by the correspondence check, which also observes
what no model can: panics, hangs and the error positions of the ANTLR runtime).

The theorems are necessary conditions of acceptance: no lexer error, nothing left over, balanced
brackets, a last token an expression can end with, a first token it can start with.  They do not
characterise the accepted texts: `(1 +) * 2` meets all five and is rejected.
-/
namespace Cel.Props.C01
open Cel.Lexer Cel.Parser

/-- compilation returns a program or rejects.  Totality itself is by construction (Lean accepted the
definition, which recurses on explicit fuel); this statement, true of any function into `Option`,
only records it. -/
theorem compile_total (src : Str) : (∃ e, compile src = some e) ∨ compile src = none := by
  cases compile src with
  | none => exact Or.inr rfl
  | some e => exact Or.inl ⟨e, rfl⟩

/-- a text on which the lexer counts an error is never accepted.  Which texts those are (an unknown
character, an unterminated literal: `a # b`, `'abc` in the examples) is the lexer's definition, not
part of this statement. -/
theorem accept_no_lex_error (src : Str) (e : Expr) (h : compile src = some e) :
    (Lexer.lex src).2 = 0 := by
  obtain ⟨ts, hl, _⟩ := compile_some h
  rw [hl]

/-- an accepted text is consumed entirely: no trailing token after the expression -/
theorem accept_consumes_all (ts : Toks) (e : Expr) (h : parseTop ts = some e) :
    ∃ fuel, parseExpr fuel ts = some (e, []) :=
  ⟨_, parseTop_some h⟩

/-- the empty token sequence (empty text, only blanks, only comments) is never accepted -/
theorem empty_rejected : parseTop [] = none := by
  decide

/-! The bracket checker, `canEnd` and `canStart` are defined here, to be read with the statements,
and verbatim in `Lemmas/ParserInv.lean`, which comes first; `opener_eq` … `canStart_eq`: they agree. -/

def opener : Tok → Option String
  | .sym "(" => some ")" | .sym "[" => some "]" | .sym "{" => some "}" | _ => none
def closer : Tok → Option String
  | .sym ")" => some ")" | .sym "]" => some "]" | .sym "}" => some "}" | _ => none

/-- stack-based bracket check: `stack` holds the closers still expected, innermost first -/
def wellBracketed : List String → Toks → Bool
  | stack, [] => stack.isEmpty
  | stack, t :: ts =>
    match opener t with
    | some c => wellBracketed (c :: stack) ts
    | none =>
      match closer t with
      | some c => (match stack with
        | c' :: rest => c == c' && wellBracketed rest ts
        | [] => false)
      | none => wellBracketed stack ts

theorem opener_eq : opener = ParserInv.opener := rfl
theorem closer_eq : closer = ParserInv.closer := rfl

theorem wellBracketed_eq (stack : List String) (ts : Toks) :
    wellBracketed stack ts = ParserInv.wellBracketed stack ts := by
  induction ts generalizing stack with
  | nil => rfl
  | cons t ts ih =>
    simp only [wellBracketed, ParserInv.wellBracketed, opener_eq, closer_eq, ih]
    rfl

/-- every accepted token sequence has balanced, properly nested brackets: an unbalanced bracket
is never accepted -/
theorem accept_brackets_balanced (ts : Toks) (e : Expr) (h : parseTop ts = some e) :
    wellBracketed [] ts = true := by
  rw [wellBracketed_eq]
  exact ParserInv.good_nil_balanced (ParserInv.parseTop_good h)

/-- tokens an expression can end with: a closing bracket, an identifier, a literal or one of
the keyword literals — never an operator, a comma, a dot, `?` or `:` -/
def canEnd : Tok → Bool
  | .sym s => s == ")" || s == "]" || s == "}" || s == "true" || s == "false" || s == "null"
  | _ => true

def canStart : Tok → Bool
  | .sym s => s == "(" || s == "[" || s == "{" || s == "." || s == "-" || s == "!" || s == "true"
      || s == "false" || s == "null"
  | .escIdent _ => false
  | _ => true

theorem canEnd_eq : canEnd = ParserInv.canEnd := rfl
theorem canStart_eq : canStart = ParserInv.canStart := rfl

/-- an accepted text ends with an operand, never with a dangling operator -/
theorem accept_no_dangling_operator (ts : Toks) (e : Expr) (h : parseTop ts = some e) :
    ∃ last, ts.getLast? = some last ∧ canEnd last = true := by
  rw [canEnd_eq]
  exact ParserInv.good_nil_last (ParserInv.parseTop_good h)

/-- … and begins with something an expression can begin with -/
theorem accept_starts_with_operand (ts : Toks) (e : Expr) (h : parseTop ts = some e) :
    ∃ first, ts.head? = some first ∧ canStart first = true := by
  rw [canStart_eq]
  exact (ParserInv.parseTop_good h).2

set_option maxRecDepth 16384 in
example : compile "1 +".toList = none ∧ compile "(1".toList = none ∧ compile "1)".toList = none
    ∧ compile "1 2".toList = none ∧ compile "'abc".toList = none ∧ compile "a # b".toList = none
    ∧ compile "".toList = none := by
  -- non-vacuity: test vectors, evaluated by the kernel
  decide +kernel
set_option maxRecDepth 16384 in
example : ∃ e, compile "(a + [1, 2][0]) * f(x)".toList = some e := by
  exact Option.isSome_iff_exists.mp (by decide +kernel)

end Cel.Props.C01
