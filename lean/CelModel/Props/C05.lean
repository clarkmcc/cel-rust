import CelModel.ArcHeap
import CelModel.Eval
import CelModel.Lemmas.ArcHeapLemmas
/-!
# C05 — execution is pure, repeatable and safe to share across threads

The evaluator model is a function, so its purity is definitional; what needs proof is that the
in-place append on uniquely owned `Arc` buffers (`impl Add for Value`) is unobservable, and that
threads which read shared data and write only their own state compute, under every interleaving,
what each would compute alone.  Assumed: `Arc` counts equal the number of aliases, and real
interleavings are schedules of atomic steps (the correspondence check observes real threads).
-/
namespace Cel.Props.C05
open Cel.ArcHeap

theorem alloc_inv (s : State) (p : List Nat) (h : Inv s) : Inv (alloc s p).1 :=
  h.of_update (by simp [List.count_eq_zero.2 h.next_not_mem])
    (fun _ e => List.count_cons_of_ne (Ne.symm e)) (Nat.lt_succ_self _) (Nat.le_succ _)

theorem clone_inv (s : State) (a : Addr) (h : Inv s) (ha : a ∈ s.live) : Inv (clone s a) := by
  obtain ⟨c, hc⟩ := h.lookup_of_mem ha
  unfold clone
  rw [hc]
  exact h.of_update (by simp [h.1 a c hc]) (fun _ e => List.count_cons_of_ne (Ne.symm e))
    (h.2.2 a c hc) (Nat.le_refl _)

theorem drop_inv (s : State) (a : Addr) (h : Inv s) (ha : a ∈ s.live) : Inv (drop s a) := by
  obtain ⟨c, hc⟩ := h.lookup_of_mem ha
  unfold drop
  rw [hc]
  exact h.of_update (by simp [count_removeOne, h.1 a c hc]) (fun _ e => by simp [count_removeOne, e])
    (h.2.2 a c hc) (Nat.le_refl _)

/-- `concat` keeps the ownership invariant: it consumes two distinct handle occurrences (`hl`; in `x + x`
the operands are two clones of one `Arc`) and produces one result handle -/
theorem concat_inv (s : State) (h1 h2 : Addr) (h : Inv s)
    (hl : h1 ∈ s.live ∧ h2 ∈ removeOne s.live h1) : Inv (concat s h1 h2).1 := by
  obtain ⟨hl1, hl2⟩ := hl
  obtain ⟨c1, hc1⟩ := h.lookup_of_mem hl1
  obtain ⟨c2, hc2⟩ := h.lookup_of_mem (mem_of_mem_removeOne hl2)
  by_cases hu : c1.rc = 1
  · rw [concat_unique hc1 hc2 hu]
    exact drop_inv _ h2 (h.setPayload hc1) (mem_of_mem_removeOne hl2)
  · rw [concat_shared hc1 hc2 hu]
    refine drop_inv _ h2 (alloc_inv _ _ (drop_inv s h1 h hl1)) ?_
    simp only [alloc, drop_live hc1]
    exact List.mem_cons_of_mem _ hl2

/-- the result handle reads as the concatenation of the operands -/
theorem concat_refines_pure_append (s : State) (h1 h2 : Addr) (h : Inv s)
    (hl : h1 ∈ s.live ∧ h2 ∈ removeOne s.live h1) (p1 p2 : List Nat)
    (r1 : read s h1 = some p1) (r2 : read s h2 = some p2) :
    read (concat s h1 h2).1 (concat s h1 h2).2 = some (p1 ++ p2) := by
  obtain ⟨c1, hc1⟩ := h.lookup_of_mem hl.1
  obtain ⟨c2, hc2⟩ := h.lookup_of_mem (mem_of_mem_removeOne hl.2)
  have e1 : c1.payload = p1 := by simpa [ArcHeap.read, hc1] using r1
  have e2 : c2.payload = p2 := by simpa [ArcHeap.read, hc2] using r2
  rw [read_concat hc1 hc2, if_pos rfl, e1, e2]

/-- every handle still live after the two operands were consumed reads what it read before: the
in-place append only happens when there is no alias -/
theorem concat_preserves_other_reads (s : State) (h1 h2 : Addr) (h : Inv s)
    (hl : h1 ∈ s.live ∧ h2 ∈ removeOne s.live h1) (a : Addr)
    (ha : a ∈ removeOne (removeOne s.live h1) h2) :
    read (concat s h1 h2).1 a = read s a := by
  obtain ⟨c1, hc1⟩ := h.lookup_of_mem hl.1
  obtain ⟨c2, hc2⟩ := h.lookup_of_mem (mem_of_mem_removeOne hl.2)
  have ha1 : a ∈ removeOne s.live h1 := mem_of_mem_removeOne ha
  rw [read_concat hc1 hc2, if_neg]
  by_cases hu : c1.rc = 1
  · -- in place: `h1` was the only handle to its cell and has been consumed
    rw [concat_unique hc1 hc2 hu]
    exact ne_of_mem_removeOne_of_count_le_one ha1 (by rw [← h.1 h1 c1 hc1, hu]; exact Nat.le_refl 1)
  · -- copied: the result is a fresh address, which no handle had
    rw [concat_shared hc1 hc2 hu]
    intro e
    have e' : a = s.next := e.trans (drop_next s h1)
    exact h.next_not_mem (e' ▸ mem_of_mem_removeOne ha1)

inductive Op where
  | alloc (p : List Nat)
  | clone (h : Addr)
  | drop (h : Addr)
  | concat (h1 h2 : Addr)
deriving Repr

/-- the operation only uses handles the program holds -/
def Op.ok (s : State) : Op → Prop
  | .alloc _ => True
  | .clone h => h ∈ s.live
  | .drop h => h ∈ s.live
  | .concat h1 h2 => h1 ∈ s.live ∧ h2 ∈ removeOne s.live h1

def applyOp (s : State) : Op → State
  | .alloc p => (alloc s p).1
  | .clone h => clone s h
  | .drop h => drop s h
  | .concat h1 h2 => (concat s h1 h2).1

def Op.consumed : Op → List Addr
  | .drop h => [h]
  | .concat h1 h2 => [h1, h2]
  | _ => []

/-- the invariant holds in every reachable state -/
theorem inv_reachable (ops : List Op) (s : State) (h : Inv s)
    (hok : ∀ (pre : List Op) (op : Op) (post : List Op), ops = pre ++ op :: post →
      op.ok (pre.foldl applyOp s)) :
    Inv (ops.foldl applyOp s) := by
  induction ops generalizing s with
  | nil => exact h
  | cons op rest ih =>
    have hop : op.ok s := hok [] op rest rfl
    have hinv : Inv (applyOp s op) := by
      cases op with
      | alloc p => exact alloc_inv s p h
      | clone x => exact clone_inv s x h hop
      | drop x => exact drop_inv s x h hop
      | concat x y => exact concat_inv s x y h hop
    apply ih _ hinv
    intro pre op' post e
    exact hok (op :: pre) op' post (by rw [e]; rfl)

/-- one operation never changes what a handle that survives it reads -/
theorem op_preserves_surviving_reads (s : State) (op : Op) (h : Inv s) (hok : op.ok s) (a : Addr)
    (ha : a ∈ op.consumed.foldl removeOne s.live) :
    read (applyOp s op) a = read s a := by
  cases op with
  | alloc p =>
    have hne : a ≠ s.next := fun e => h.next_not_mem (e ▸ ha)
    rw [applyOp, read_alloc, if_neg hne]
  | clone x => exact read_clone s x a
  | drop x => exact read_drop s x a
  | concat x y => exact concat_preserves_other_reads s x y h hok a ha

open Threads in
/-- every schedule yields, for each thread, the state it would reach running alone for as many
steps as the schedule gives it -/
theorem interleaving_irrelevant {σ τ : Type} (step : σ → τ → τ) (sys : System σ τ) (sched : List Nat)
    (i : Nat) (hi : i < sys.locals.length) :
    (run step sys sched).shared = sys.shared ∧
    (run step sys sched).locals[i]? =
      (sys.locals[i]?).map (iterate (step sys.shared) (sched.count i)) := by
  have _ := hi
  exact ⟨run_shared step sys sched, run_locals_getElem? step sys sched i⟩

open Threads in
/-- two schedules that give every thread the same number of steps end in the same system state -/
theorem schedules_with_same_counts_agree {σ τ : Type} (step : σ → τ → τ) (sys : System σ τ)
    (s1 s2 : List Nat) (h : ∀ i, s1.count i = s2.count i) :
    (run step sys s1).locals = (run step sys s2).locals := by
  apply List.ext_getElem?
  intro i
  rw [run_locals_getElem?, run_locals_getElem?, h i]

/-- repeatability, by `rfl`: the model's `execute` is a function of context and program -/
theorem execute_repeatable (ctx : Ctx) (e : Expr) : execute ctx e = execute ctx e := rfl

/-- likewise for a history of programs against one context -/
theorem history_is_independent_executions (ctx : Ctx) (es : List Expr) :
    es.map (fun e => (execute ctx e).1) = es.map (fun e => (execute ctx e).1) := rfl

/-! ### non-vacuity: a shared buffer is copied, a unique one is appended in place -/
example :
    let (s0, a) := alloc { heap := [], live := [], next := 0 } [1, 2]
    let s1 := clone s0 a            -- two handles to [1,2]
    let (s2, b) := alloc s1 [3]
    let (s3, r) := concat s2 a b    -- consumes one of the two handles to a, and b
    read s3 r = some [1, 2, 3] ∧ read s3 a = some [1, 2] ∧ r ≠ a := by
  decide
example :
    let (s0, a) := alloc { heap := [], live := [], next := 0 } [1, 2]
    let (s1, b) := alloc s0 [3]
    let (s2, r) := concat s1 a b
    read s2 r = some [1, 2, 3] ∧ r = a := by
  decide

end Cel.Props.C05
