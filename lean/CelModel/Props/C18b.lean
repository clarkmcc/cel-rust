import CelModel.Props.C18
/-!
# C18 (continued) — "bytes become standard base64": the export is decodable

The defining property of RFC 4648 base64: a reference decoder (sextet value of each character,
four characters → three bytes, `=` padding marks one or two missing bytes) recovers exactly the
bytes that were exported, so the export is injective on bytes.
-/
namespace Cel.Props.C18
open Cel.Serde

/-- value of a character of the standard alphabet (`A–Z a–z 0–9 + /`) -/
def b64Val (c : Char) : Option Nat :=
  if 'A' ≤ c && c ≤ 'Z' then some (c.toNat - 65)
  else if 'a' ≤ c && c ≤ 'z' then some (c.toNat - 97 + 26)
  else if '0' ≤ c && c ≤ '9' then some (c.toNat - 48 + 52)
  else if c == '+' then some 62
  else if c == '/' then some 63
  else none

/-- RFC 4648 decoder for padded standard base64 -/
def b64Decode : Str → Option (List UInt8)
  | [] => some []
  | [a, b, '=', '='] =>
    match b64Val a, b64Val b with
    | some x, some y => some [(x * 4 + y / 16).toUInt8]
    | _, _ => none
  | [a, b, c, '='] =>
    match b64Val a, b64Val b, b64Val c with
    | some x, some y, some z => some [(x * 4 + y / 16).toUInt8, (y % 16 * 16 + z / 4).toUInt8]
    | _, _, _ => none
  | a :: b :: c :: d :: rest =>
    match b64Val a, b64Val b, b64Val c, b64Val d, b64Decode rest with
    | some x, some y, some z, some w, some bs =>
      some ((x * 4 + y / 16).toUInt8 :: (y % 16 * 16 + z / 4).toUInt8 :: (z % 4 * 64 + w).toUInt8 :: bs)
    | _, _, _, _, _ => none
  | _ => none

theorem b64Val_b64Char {n : Nat} (h : n < 64) : b64Val (b64Char n) = some n := by
  have : ∀ k : Fin 64, b64Val (b64Char k.val) = some k.val := by decide +kernel
  exact this ⟨n, h⟩

/-- no character of the alphabet is the padding character (which has no sextet value), so a
sextet is never read as padding -/
theorem b64Char_ne_pad {n : Nat} (h : n < 64) : b64Char n ≠ '=' := by
  intro e
  have hv := b64Val_b64Char h
  rw [e] at hv
  cases hv

theorem toUInt8_of_eq {k : Nat} {a : UInt8} (h : k = a.toNat) : k.toUInt8 = a := by
  subst h; exact UInt8.ofNat_toNat

/-- decoding the exported text gives back exactly the bytes -/
theorem base64_decode_encode (bs : List UInt8) : b64Decode (base64 bs) = some bs := by
  fun_induction base64 bs with
  | case1 => rfl
  | case2 a n =>
    have ha : n < 256 := UInt8.toNat_lt a
    rw [b64Decode, b64Val_b64Char (by omega), b64Val_b64Char (by omega)]
    exact congrArg (fun x => some [x]) (toUInt8_of_eq (by omega))
  | case3 a b n =>
    have ha := UInt8.toNat_lt a
    have hb := UInt8.toNat_lt b
    rw [b64Decode, b64Val_b64Char (by omega), b64Val_b64Char (by omega), b64Val_b64Char (by omega)]
    · simp only [Option.some.injEq, List.cons.injEq, and_true]
      exact ⟨toUInt8_of_eq (by omega), toUInt8_of_eq (by omega)⟩
    · exact b64Char_ne_pad (by omega)
  | case4 a b c rest n ih =>
    have ha := UInt8.toNat_lt a
    have hb := UInt8.toNat_lt b
    have hc := UInt8.toNat_lt c
    -- the fourth character is a sextet, never `=`: neither padded pattern of the decoder fires
    have hd : b64Char (n % 64) ≠ '=' := b64Char_ne_pad (by omega)
    rw [b64Decode, b64Val_b64Char (by omega), b64Val_b64Char (by omega), b64Val_b64Char (by omega),
      b64Val_b64Char (by omega), ih]
    · simp only [Option.some.injEq, List.cons.injEq, and_true]
      exact ⟨toUInt8_of_eq (by omega), toUInt8_of_eq (by omega), toUInt8_of_eq (by omega)⟩
    · exact fun _ h _ => hd h
    · exact fun h _ => hd h

/-- hence the export of bytes is injective -/
theorem base64_injective (a b : List UInt8) (h : base64 a = base64 b) : a = b := by
  have := base64_decode_encode a
  rw [h, base64_decode_encode b] at this
  exact (Option.some.inj this).symm

example : base64 [0x66, 0x6f, 0x6f, 0x62, 0x61] = "Zm9vYmE=".toList := by decide
example : b64Decode "Zm9vYmE=".toList = some [0x66, 0x6f, 0x6f, 0x62, 0x61] := by decide

end Cel.Props.C18
