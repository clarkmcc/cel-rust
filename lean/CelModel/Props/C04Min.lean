import CelModel.Props.C04
/-!
# C04 (continued) — round trip through *minimal* parenthesisation

`Src.renderMin` writes only the parentheses CEL's precedence table requires: `?:` loosest and to the
right, then `||`, `&&`, the relations, the additive and the multiplicative operators
(left-associative), prefix `!` and `-`, then member access, method calls and indexing; arguments,
elements and entries are written without parentheses.

Three places keep a pair that precedence alone would not demand, because the grammar gives the
unparenthesised text another meaning: a nested `||` inside `||` or `&&` inside `&&` (a chain is
re-balanced: `balanced_tree_inorder`), the operand of a prefix operator unless it is a member
expression (`!!x` cancels, `!-x` is not in the grammar: `prefix_not_parity`, `prefix_neg_parity`),
and an operand of unary minus whose text starts with a numeral (`single_minus_before_int_is_sign`).
-/
namespace Cel.Props.C04
open Cel.Parser Cel.Lemmas.ParserCalls

/-- binding strength of the root node, numbered as the levels of the grammar (`pfun`) -/
def Src.prec : Src → Nat
  | .ident _ => 7
  | .num _ => 7
  | .bin sym _ _ _ =>
    if sym == "||" then 1 else if sym == "&&" then 2
    else if sym == "+" || sym == "-" then 4
    else if sym == "*" || sym == "/" || sym == "%" then 5
    else 3
  | .not _ => 6
  | .neg _ => 6
  | .cond _ _ _ => 0
  | .index _ _ => 7
  | .select _ _ => 7
  | .call _ _ => 7
  | .mcall _ _ _ => 7
  | .list _ => 7
  | .mapLit _ => 7

theorem prec_le (t : Src) : t.prec ≤ 7 := by
  fun_cases Src.prec t
  all_goals omega

def wrapIf (need : Bool) (ts : Toks) : Toks := if need then [.sym "("] ++ ts ++ [.sym ")"] else ts

mutual
/-- the root node without enclosing parentheses; an operand is parenthesised exactly when it binds more
loosely than its position requires; arguments, elements, keys and values are at level 0, the
receiver of a method call at level 7 -/
def Src.renderBare : Src → Toks
  | .ident n => [.ident n]
  | .num n => [.int (natToDec n)]
  | .bin sym nm a b =>
    let l := Src.prec (.bin sym nm a b)
    -- `||` and `&&`: both operands one level up (no unparenthesised chains);
    -- the left-associative levels: left operand at the same level, right operand one level up
    if l ≤ 2 then wrapIf (a.prec < l + 1) a.renderBare ++ [.sym sym] ++ wrapIf (b.prec < l + 1) b.renderBare
    else wrapIf (a.prec < l) a.renderBare ++ [.sym sym] ++ wrapIf (b.prec < l + 1) b.renderBare
  | .not a => [.sym "!"] ++ wrapIf (a.prec < 7) a.renderBare
  | .neg a =>
    -- a `-` directly before a numeral token is the numeral's sign: keep them apart
    let r := wrapIf (a.prec < 7) a.renderBare
    match r with
    | .int d :: rest => [.sym "-", .sym "("] ++ (.int d :: rest) ++ [.sym ")"]
    | r => [.sym "-"] ++ r
  | .cond c a b => wrapIf (c.prec < 1) c.renderBare ++ [.sym "?"] ++ wrapIf (a.prec < 1) a.renderBare ++ [.sym ":"] ++ b.renderBare
  | .index a i => wrapIf (a.prec < 7) a.renderBare ++ [.sym "["] ++ i.renderBare ++ [.sym "]"]
  | .select a f => wrapIf (a.prec < 7) a.renderBare ++ [.sym ".", .ident f]
  | .call f args => [.ident f, .sym "("] ++ sepList (Src.renderBareEach args) ++ [.sym ")"]
  | .mcall t f args =>
    wrapIf (t.prec < 7) t.renderBare ++ [.sym ".", .ident f, .sym "("] ++ sepList (Src.renderBareEach args) ++ [.sym ")"]
  | .list es => [.sym "["] ++ sepList (Src.renderBareEach es) ++ [.sym "]"]
  | .mapLit es => [.sym "{"] ++ sepEntries (Src.renderBareEntries es) ++ [.sym "}"]
/-- `as.map renderBare` (every element at level 0) -/
def Src.renderBareEach : List Src → List Toks
  | [] => []
  | a :: as => a.renderBare :: Src.renderBareEach as
/-- `es.map fun (k, v) => (k.renderBare, v.renderBare)` -/
def Src.renderBareEntries : List (Src × Src) → List (Toks × Toks)
  | [] => []
  | (k, v) :: es => (k.renderBare, v.renderBare) :: Src.renderBareEntries es
end

theorem Src.length_renderBareEach (as : List Src) : (Src.renderBareEach as).length = as.length := by
  induction as with
  | nil => rfl
  | cons a as ih => rw [Src.renderBareEach, List.length_cons, List.length_cons, ih]

theorem Src.length_renderBareEntries (es : List (Src × Src)) :
    (Src.renderBareEntries es).length = es.length := by
  induction es with
  | nil => rfl
  | cons p es ih => rw [Src.renderBareEntries, List.length_cons, List.length_cons, ih]

def Src.renderAt (p : Nat) (t : Src) : Toks := wrapIf (t.prec < p) t.renderBare

def Src.renderMin (t : Src) : Toks := t.renderAt 0

theorem renderAt_of_lt {t : Src} {p : Nat} (h : t.prec < p) :
    t.renderAt p = [.sym "("] ++ t.renderBare ++ [.sym ")"] := by
  simp [Src.renderAt, wrapIf, h]

theorem renderAt_of_le {t : Src} {p : Nat} (h : p ≤ t.prec) : t.renderAt p = t.renderBare := by
  simp [Src.renderAt, wrapIf, Nat.not_lt.mpr h]

theorem renderAt_succ {t : Src} {p : Nat} (h : t.prec ≠ p) : t.renderAt p = t.renderAt (p + 1) := by
  by_cases hlt : t.prec < p
  · rw [renderAt_of_lt hlt, renderAt_of_lt (by omega)]
  · rw [renderAt_of_le (by omega), renderAt_of_le (by omega)]

/-! By induction on the tree: for every position `p`, `t.renderAt p` is read by the function of level
`p` (`Good.pa`) and, in continuation form, by the loops of the left-recursive levels (`Good.m7`,
`Good.cL`).  `Bare` is the same about `t.renderBare` at the level of the root; `Bare.good` adds the
parentheses. -/
section Proof
open Cel.Lemmas.ParserSteps Cel.Lemmas.ParserMin

mutual
/-- number of nodes, every argument / element / entry counting once more: the fuel needed is
proportional to it, and every node writes at least one token.  As `sz` of `Props/C04.lean` with an
atom counting 1: `30 * nodes t` has no constant added, and `nodes t` also bounds the length of a
chain. -/
def nodes : Src → Nat
  | .ident _ => 1
  | .num _ => 1
  | .bin _ _ a b => nodes a + nodes b + 1
  | .not a => nodes a + 1
  | .neg a => nodes a + 1
  | .cond c a b => nodes c + nodes a + nodes b + 1
  | .index a i => nodes a + nodes i + 1
  | .select a _ => nodes a + 1
  | .call _ args => nodesList args + args.length + 1
  | .mcall t _ args => nodes t + nodesList args + args.length + 1
  | .list es => nodesList es + es.length + 1
  | .mapLit es => nodesEntries es + es.length + 1
def nodesList : List Src → Nat
  | [] => 0
  | a :: as => nodes a + nodesList as
def nodesEntries : List (Src × Src) → Nat
  | [] => 0
  | (k, v) :: es => nodes k + nodes v + nodesEntries es
end

theorem length_le_wrapIf (b : Bool) (ts : Toks) : ts.length ≤ (wrapIf b ts).length := by
  unfold wrapIf
  split
  · simp only [List.length_append, List.length_cons, List.length_nil]
    omega
  · exact Nat.le_refl _

mutual
theorem nodes_le_renderBare : (t : Src) → nodes t ≤ t.renderBare.length
  | .ident n => by simp [nodes, Src.renderBare]
  | .num n => by simp [nodes, Src.renderBare]
  | .bin sym nm a b => by
    have iha := nodes_le_renderBare a
    have ihb := nodes_le_renderBare b
    have ha := fun c => Nat.le_trans iha (length_le_wrapIf c a.renderBare)
    have hb := fun c => Nat.le_trans ihb (length_le_wrapIf c b.renderBare)
    simp only [Src.renderBare, nodes]
    split
    · have := ha (decide (a.prec < Src.prec (.bin sym nm a b) + 1))
      have := hb (decide (b.prec < Src.prec (.bin sym nm a b) + 1))
      simp only [List.length_append, List.length_cons, List.length_nil]; omega
    · have := ha (decide (a.prec < Src.prec (.bin sym nm a b)))
      have := hb (decide (b.prec < Src.prec (.bin sym nm a b) + 1))
      simp only [List.length_append, List.length_cons, List.length_nil]; omega
  | .not a => by
    have iha := nodes_le_renderBare a
    have := Nat.le_trans iha (length_le_wrapIf (decide (a.prec < 7)) a.renderBare)
    simp only [Src.renderBare, nodes, List.length_append, List.length_cons, List.length_nil]; omega
  | .neg a => by
    have iha := nodes_le_renderBare a
    have := Nat.le_trans iha (length_le_wrapIf (decide (a.prec < 7)) a.renderBare)
    simp only [Src.renderBare, nodes]
    split
    · rename_i heq; rw [heq] at this
      simp only [List.length_append, List.length_cons, List.length_nil] at this ⊢; omega
    · simp only [List.length_append, List.length_cons, List.length_nil]; omega
  | .cond c a b => by
    have ihc := nodes_le_renderBare c
    have iha := nodes_le_renderBare a
    have ihb := nodes_le_renderBare b
    have := Nat.le_trans ihc (length_le_wrapIf (decide (c.prec < 1)) c.renderBare)
    have := Nat.le_trans iha (length_le_wrapIf (decide (a.prec < 1)) a.renderBare)
    simp only [Src.renderBare, nodes, List.length_append, List.length_cons, List.length_nil]; omega
  | .index a i => by
    have iha := nodes_le_renderBare a
    have ihi := nodes_le_renderBare i
    have := Nat.le_trans iha (length_le_wrapIf (decide (a.prec < 7)) a.renderBare)
    simp only [Src.renderBare, nodes, List.length_append, List.length_cons, List.length_nil]; omega
  | .select a f => by
    have iha := nodes_le_renderBare a
    have := Nat.le_trans iha (length_le_wrapIf (decide (a.prec < 7)) a.renderBare)
    simp only [Src.renderBare, nodes, List.length_append, List.length_cons, List.length_nil]; omega
  | .call f args => by
    have := nodesList_le args
    have := length_sepTail_le (Src.renderBareEach args)
    simp only [Src.renderBare, nodes, List.length_append, List.length_cons, List.length_nil]; omega
  | .mcall t f args => by
    have iht := nodes_le_renderBare t
    have := Nat.le_trans iht (length_le_wrapIf (decide (t.prec < 7)) t.renderBare)
    have := nodesList_le args
    have := length_sepTail_le (Src.renderBareEach args)
    simp only [Src.renderBare, nodes, List.length_append, List.length_cons, List.length_nil]; omega
  | .list es => by
    have := nodesList_le es
    have := length_sepTail_le (Src.renderBareEach es)
    simp only [Src.renderBare, nodes, List.length_append, List.length_cons, List.length_nil]; omega
  | .mapLit es => by
    have := nodesEntries_le es
    have := length_sepEntTail_le (Src.renderBareEntries es)
    simp only [Src.renderBare, nodes, List.length_append, List.length_cons, List.length_nil]; omega
theorem nodesList_le : (as : List Src) →
    nodesList as + as.length ≤ (sepTail (Src.renderBareEach as)).length
  | [] => by simp [nodesList]
  | a :: as => by
    have := nodes_le_renderBare a
    have := nodesList_le as
    simp only [nodesList, Src.renderBareEach, sepTail, List.length_append, List.length_cons]; omega
theorem nodesEntries_le : (es : List (Src × Src)) →
    nodesEntries es + es.length ≤ (sepEntTail (Src.renderBareEntries es)).length
  | [] => by simp [nodesEntries]
  | (k, v) :: es => by
    have := nodes_le_renderBare k
    have := nodes_le_renderBare v
    have := nodesEntries_le es
    simp only [nodesEntries, Src.renderBareEntries, sepEntTail, List.length_append, List.length_cons]; omega
end

/-- what the induction carries about `t` in every position: `f` bounds the depth, `n` the length of
the chain of suffixes or operators at the root -/
structure Good (f n : Nat) (t : Src) : Prop where
  pa : ∀ p, p ≤ 7 → ParsesAt p f (t.renderAt p) t.denote
  m7 : Member f n (t.renderAt 7) t.denote
  cL : ∀ p, 3 ≤ p → p ≤ 5 → ContL p f n (t.renderAt p) t.denote

structure Bare (f n : Nat) (t : Src) : Prop where
  pa : ParsesAt t.prec f t.renderBare t.denote
  m7 : t.prec = 7 → Member f n t.renderBare t.denote
  cL : 3 ≤ t.prec → t.prec ≤ 5 → ContL t.prec f n t.renderBare t.denote

section
variable {f f' n n' : Nat} {t : Src}

/-- where the position asks for more than the root node offers, parentheses are written: 9 units down
to the primary and up again, twice (to the parenthesis and inside it) -/
theorem Bare.good (h : Bare f n t) (hf : f + 18 ≤ f') (hn : n ≤ n') : Good f' n' t := by
  have hq := prec_le t
  have hM := member_paren (h.pa.down (Nat.zero_le _) hq (fun h7 => (h.m7 h7).hd))
  have pa : ∀ p, p ≤ 7 → ParsesAt p (f + 16) (t.renderAt p) t.denote := by
    intro p hp
    by_cases hlt : t.prec < p
    · rw [renderAt_of_lt hlt]
      exact (hM.parsesAt hp).mono (by omega)
    · rw [renderAt_of_le (by omega)]
      exact (h.pa.down (by omega) hq (fun h7 => (h.m7 h7).hd)).mono (by omega)
  refine ⟨fun p hp => (pa p hp).mono (by omega), ?_, ?_⟩
  · by_cases hlt : t.prec < 7
    · rw [renderAt_of_lt hlt]; exact hM.mono (by omega) (Nat.zero_le _)
    · rw [renderAt_of_le (by omega)]; exact (h.m7 (by omega)).mono (by omega) hn
  · intro p h3 h5
    by_cases hp : t.prec = p
    · subst hp; rw [renderAt_of_le (Nat.le_refl _)]; exact (h.cL h3 h5).mono (by omega) hn
    · rw [renderAt_succ hp]
      exact (ContL.ofParsesAt h3 h5 (pa (p + 1) (by omega))).mono (by omega) (Nat.zero_le _)

theorem Bare.of7 (h7 : t.prec = 7) (hM : Member f n t.renderBare t.denote) : Bare f n t where
  pa := h7 ▸ hM.cont.parsesAt
  m7 := fun _ => hM
  cL := fun _ h5 => absurd h5 (by omega)

theorem Bare.ofL (h3 : 3 ≤ t.prec) (h5 : t.prec ≤ 5) (hC : ContL t.prec f n t.renderBare t.denote) :
    Bare f n t where
  pa := hC.parsesAt h3 h5
  m7 := fun h7 => absurd h7 (by omega)
  cL := fun _ _ => hC

theorem Bare.ofPa (hp : t.prec ≤ 2 ∨ t.prec = 6) (h : ParsesAt t.prec f t.renderBare t.denote) :
    Bare f 0 t where
  pa := h
  m7 := fun h7 => absurd h7 (by omega)
  cL := fun h3 h5 => absurd h3 (by omega)
end

section
variable {fa fb na nb : Nat} {a b : Src}

theorem bare_neg (ha : Good fa na a) : Bare (fa + 10) 0 (.neg a) := by
  refine .ofPa (.inr rfl) ?_
  show ParsesAt 6 (fa + 10) (Src.renderBare (.neg a)) (.call "-_" [a.denote])
  simp only [Src.renderBare]
  split
  · rename_i d rest heq
    rw [← heq]
    exact ha.m7.paren.neg (fun d r he => by cases he)
  · rename_i hne
    exact (ha.m7.neg hne).mono (by omega)

theorem bare_logic {p : Nat} (h1 : 1 ≤ p) (h2 : p ≤ 2) (ha : Good fa na a) (hb : Good fb nb b) :
    Bare (max fa fb + 2) 0 (.bin (ltok p) (lname p) a b) := by
  have hs : (Src.bin (ltok p) (lname p) a b).prec = p :=
    match p, h1, h2 with
    | 1, _, _ => rfl
    | 2, _, _ => rfl
  refine .ofPa (.inl (by omega)) ?_
  have hr : (Src.bin (ltok p) (lname p) a b).renderBare
      = a.renderAt (p + 1) ++ [.sym (ltok p)] ++ b.renderAt (p + 1) := by
    simp only [Src.renderBare, Src.renderAt, hs, if_pos h2]
  rw [hs, hr]
  exact parsesAt_logic h1 h2 (ha.pa _ (by omega)) (hb.pa _ (by omega))

theorem bare_binL {p : Nat} (h3 : 3 ≤ p) (h5 : p ≤ 5) (ha : Good fa na a) (hb : Good fb nb b) {s nm : String}
    (hop : ops p s = some nm) : Bare (max fa (fb + na + 2)) (na + 1) (.bin s nm a b) := by
  have hs : (Src.bin s nm a b).prec = p :=
    match p, h3, h5, hop with
    | 3, _, _, hop => by rcases relOp_cases hop with rfl | rfl | rfl | rfl | rfl | rfl | rfl <;> rfl
    | 4, _, _, hop => by rcases addOp_cases hop with rfl | rfl <;> rfl
    | 5, _, _, hop => by rcases mulOp_cases hop with rfl | rfl | rfl <;> rfl
  have hr : (Src.bin s nm a b).renderBare = a.renderAt p ++ [.sym s] ++ b.renderAt (p + 1) := by
    simp only [Src.renderBare, Src.renderAt, hs, if_neg (show ¬ p ≤ 2 by omega)]
  have hC := contL_bin h3 h5 (ha.cL p h3 h5) (hb.pa (p + 1) (by omega)) hop
  rw [← hr, ← hs] at hC
  exact .ofL (by omega) (by omega) hC
end

theorem Good.expr {f n : Nat} {t : Src} (h : Good f n t) : ParsesAt 0 f t.renderBare t.denote :=
  renderAt_of_le (Nat.zero_le _) ▸ h.pa 0 (Nat.zero_le 7)

mutual
/-- 30 units per node: 18 for possible parentheses, at most 3 for the node itself, and the length of a
chain (at most the number of nodes) for what is read inside it -/
theorem good_of_wf : (t : Src) → t.WF → Good (30 * nodes t) (nodes t) t
  | .ident n, _ => (Bare.of7 rfl (member_ident n)).good (by simp only [nodes]; omega) (by omega)
  | .num n, h =>
    (Bare.of7 rfl (member_num n h)).good (by simp only [nodes]; omega) (by omega)
  | .bin sym nm a b, ⟨hop, ha, hb⟩ => by
    have iha := good_of_wf a ha
    have ihb := good_of_wf b hb
    rcases binTable_cases hop with ⟨p, h1, h2, rfl, rfl⟩ | ⟨p, h3, h5, hp⟩
    · exact (bare_logic h1 h2 iha ihb).good (by simp only [nodes]; omega) (by omega)
    · exact (bare_binL h3 h5 iha ihb hp).good (by simp only [nodes]; omega) (by simp only [nodes]; omega)
  | .not a, h =>
    (Bare.ofPa (t := .not a) (.inr rfl) (good_of_wf a h).m7.not).good (by simp only [nodes]; omega) (by omega)
  | .neg a, h => (bare_neg (good_of_wf a h)).good (by simp only [nodes]; omega) (by omega)
  | .cond c a b, ⟨hc, ha, hb⟩ => by
    have hX := parsesAt_cond ((good_of_wf c hc).pa 1 (by omega)) ((good_of_wf a ha).pa 1 (by omega))
      (good_of_wf b hb).expr
    exact (Bare.ofPa (t := .cond c a b) (.inl (Nat.zero_le 2)) hX).good (by simp only [nodes]; omega) (by omega)
  | .index a i, ⟨ha, hi⟩ => by
    have hM := (good_of_wf a ha).m7.index (good_of_wf i hi).expr
    exact (Bare.of7 (t := .index a i) rfl hM).good (by simp only [nodes]; omega) (by simp only [nodes]; omega)
  | .select a f, h =>
    (Bare.of7 (t := .select a f) rfl ((good_of_wf a h.1).m7.select f)).good
      (by simp only [nodes]; omega) (by simp only [nodes]; omega)
  | .call f args, h => by
    have hlen := Src.length_renderBareEach args
    exact (Bare.of7 (t := .call f args) rfl (member_call (goodList args h.2) f (h.1.notMacro))).good
      (by simp only [nodes]; omega) (by omega)
  | .mcall t f args, h => by
    have hlen := Src.length_renderBareEach args
    have hM := (good_of_wf t h.1).m7.mcall (goodList args h.2.2) f (h.2.1.notMacro)
    exact (Bare.of7 (t := .mcall t f args) rfl hM).good (by simp only [nodes]; omega) (by simp only [nodes]; omega)
  | .list es, h => by
    have hlen := Src.length_renderBareEach es
    exact (Bare.of7 (t := .list es) rfl (member_list (goodList es h))).good (by simp only [nodes]; omega) (by omega)
  | .mapLit es, h => by
    have hlen := Src.length_renderBareEntries es
    exact (Bare.of7 (t := .mapLit es) rfl (member_map (goodEntries es h))).good
      (by simp only [nodes]; omega) (by omega)
theorem goodList : (as : List Src) → Src.WFList as →
    Items (30 * nodesList as) (Src.renderBareEach as) (Src.denoteList as)
  | [], _ => .nil
  | a :: as, h => by
    simp only [Src.renderBareEach, Src.denoteList]
    exact .cons ((good_of_wf a h.1).expr.mono (by simp only [nodesList]; omega))
      ((goodList as h.2).mono (by simp only [nodesList]; omega))
theorem goodEntries : (es : List (Src × Src)) → Src.WFEntries es →
    Entries (30 * nodesEntries es) (Src.renderBareEntries es) (Src.denoteEntries es)
  | [], _ => .nil
  | (k, v) :: es, h => by
    simp only [Src.renderBareEntries, Src.denoteEntries]
    exact .cons ((good_of_wf k h.1).expr.mono (by simp only [nodesEntries]; omega))
      ((good_of_wf v h.2.1).expr.mono (by simp only [nodesEntries]; omega))
      ((goodEntries es h.2.2).mono (by simp only [nodesEntries]; omega))
end

end Proof

/-- the round trip through minimal parenthesisation, on token lists: parsing `t.renderMin` yields
the tree `t` denotes, for every well-formed tree of `Src` -/
theorem parse_render_minimal (t : Src) (h : t.WF) : parseTop t.renderMin = some t.denote := by
  have hlen := nodes_le_renderBare t
  rw [Src.renderMin, renderAt_of_le (Nat.zero_le _)]
  exact (good_of_wf t h).expr.parseTop (by omega)

/-! non-vacuity -/
def vA : Src := .ident "a".toList
def vB : Src := .ident "b".toList
def vC : Src := .ident "c".toList

example : (Src.bin "||" "_||_" vA (.bin "&&" "_&&_" vB vC)).renderMin =
    [.ident "a".toList, .sym "||", .ident "b".toList, .sym "&&", .ident "c".toList] := by decide
example : (Src.bin "&&" "_&&_" (.bin "||" "_||_" vA vB) vC).renderMin =
    [.sym "(", .ident "a".toList, .sym "||", .ident "b".toList, .sym ")", .sym "&&", .ident "c".toList] := by decide
example : (Src.bin "-" "_-_" vA (.bin "-" "_-_" vB vC)).renderMin =
    [.ident "a".toList, .sym "-", .sym "(", .ident "b".toList, .sym "-", .ident "c".toList, .sym ")"] := by decide
example : (Src.bin "-" "_-_" (.bin "-" "_-_" vA vB) vC).renderMin =
    [.ident "a".toList, .sym "-", .ident "b".toList, .sym "-", .ident "c".toList] := by decide
example : (Src.cond vC vA (.cond vC vA vB)).renderMin =
    [.ident "c".toList, .sym "?", .ident "a".toList, .sym ":", .ident "c".toList, .sym "?", .ident "a".toList, .sym ":", .ident "b".toList] := by decide

/-- `exCall` needs no parentheses at all -/
example : exCall.renderMin =
    [.ident "f".toList, .sym "(", .ident "a".toList, .sym ",", .ident "b".toList, .sym "+", .ident "c".toList, .sym ")",
     .sym ".", .ident "g".toList, .sym "(", .sym "[", .ident "d".toList, .sym "]", .sym ",",
       .sym "{", .ident "e".toList, .sym ":", .ident "f".toList, .sym "}", .sym ")",
     .sym "[", .int "0".toList, .sym "]", .sym "*", .int "2".toList] := by decide

example : parseTop exCall.renderMin = some exCall.denote :=
  parse_render_minimal _ (by
    simp [exCall, Src.WF, Src.WFList, Src.WFEntries, FnName, macroNames, binTable, i64Max])

/-- `(a + b).f(c ? a : b)` -/
example : (Src.mcall (.bin "+" "_+_" vA vB) "f".toList [.cond vC vA vB]).renderMin =
    [.sym "(", .ident "a".toList, .sym "+", .ident "b".toList, .sym ")", .sym ".", .ident "f".toList, .sym "(",
     .ident "c".toList, .sym "?", .ident "a".toList, .sym ":", .ident "b".toList, .sym ")"] := by decide

end Cel.Props.C04
