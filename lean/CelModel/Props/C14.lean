import CelModel.Props.C03
import CelModel.Lemmas.AList
import CelModel.Lemmas.NumLemmas
/-!
# C14 — list, map and string operations agree with one another

Each operation is first written as a function of the container's own lookup (`Map::get`,
`List.any`); the agreements are comparisons of those.  String tests: `Props/C14b.lean`.
-/
namespace Cel.Props.C14

/-- indexing a list: element in range, `null` otherwise — for every `Int` index -/
theorem list_index_spec (xs : List Value) (i : Int) :
    indexOp (.list xs) (.int i) =
      .ok (if h : 0 ≤ i ∧ i.toNat < xs.length then xs[i.toNat]'h.2 else .null) :=
  C03.list_index_spec xs i

/-- `k in m`, `m.contains(k)` and `m[k]` as functions of `Map::get` -/
theorem in_map_is_get (m : MapV) (k : Key) :
    inOp k.toValue (.map m) = .ok (.bool (MapV.get m k).isSome) := by
  cases k <;> simp [inOp, Key.toValue, Value.toKey?]

theorem contains_map_is_get (m : MapV) (k : Key) :
    containsFn (.map m) k.toValue = .ok (.bool (MapV.get m k).isSome) := by
  cases k <;> simp [containsFn, Key.toValue, Value.toKey?]

theorem index_map_is_get (m : MapV) (k : Key) :
    indexOp (.map m) k.toValue = .ok ((MapV.get m k).getD .null) := by
  cases k <;> simp [indexOp, Key.toValue]

/-- `k in m`, `m.contains(k)` and `m[k] != null` agree on presence, in maps without `null` values -/
theorem presence_agreement (m : MapV) (k : Key)
    (hnn : ∀ v, MapV.get m k = some v → Value.eq v .null = false) :
    ∃ present : Bool,
      inOp k.toValue (.map m) = .ok (.bool present) ∧
      containsFn (.map m) k.toValue = .ok (.bool present) ∧
      (indexOp (.map m) k.toValue).bind (fun v => applyBin .ne v .null) = .ok (.bool present) := by
  refine ⟨(MapV.get m k).isSome, in_map_is_get m k, contains_map_is_get m k, ?_⟩
  rw [index_map_is_get]
  cases h : MapV.get m k with
  | none => simp [Outcome.bind, applyBin, Value.eq]
  | some v => simp [Outcome.bind, applyBin, hnn v h]

/-- numerically equal int and uint keys are the same key as far as presence is concerned -/
theorem numeric_twin_keys_same (m : MapV) (i : Int) (h0 : 0 ≤ i) (h1 : i ≤ i64Max) :
    (MapV.get m (.int i)).isSome = (MapV.get m (.uint i)).isSome := by
  unfold i64Max at h1
  have hu : inU64 i = true := (inU64_iff i).2 ⟨h0, by omega⟩
  have hi : inI64 i = true := (inI64_iff i).2 ⟨by omega, h1⟩
  simp only [MapV.get, hu, hi, if_true]
  cases ha : MapV.find? m (.int i)
  all_goals
    cases hb : MapV.find? m (.uint i)
    all_goals simp

/-- `f` is not the text of a non-string key of `m`: true of every identifier (int and uint keys
start with a digit or `-`, bool keys are keywords) -/
def IdentLikeFor (m : MapV) (f : Str) : Prop :=
  ∀ kv ∈ m, kv.1.toText = f → kv.1 = .str f

theorem find_any (m : MapV) (k : Key) : (MapV.find? m k).isSome = m.any (fun kv => kv.1 == k) := by
  rw [MapV.find?_eq_alist, AList.find_eq_find?, Option.isSome_map]
  exact List.isSome_find?

/-- `has(m.f)` agrees with `'f' in m` for identifier-like field names -/
theorem has_agrees_with_in (m : MapV) (f : Str) (hid : IdentLikeFor m f) :
    hasField (.map m) f = .bool (MapV.find? m (.str f)).isSome := by
  simp only [hasField, find_any]
  congr 1
  induction m with
  | nil => rfl
  | cons kv rest ih =>
    obtain ⟨k, v⟩ := kv
    have ih' := ih (fun kv h => hid kv (List.mem_cons_of_mem _ h))
    simp only [List.any_cons, ih']
    have hhead : (k.toText == f) = (k == Key.str f) := by
      by_cases h : k.toText = f
      · have hk : k = .str f := hid (k, v) (List.mem_cons_self ..) h
        subst hk
        simp [Key.toText]
      · have hne : k ≠ .str f := by
          intro hk; subst hk; exact h rfl
        have a : (k.toText == f) = false := by simp [h]
        have b : (k == Key.str f) = false := by simp [hne]
        rw [a, b]
    rw [hhead]

/-- `m.f` is `m['f']` when the key is present -/
theorem select_is_index_when_present (ctx : Ctx) (m : MapV) (f : Str) (v : Value)
    (h : MapV.find? m (.str f) = some v) :
    member ctx (.map m) f = .ok v ∧ indexOp (.map m) (.str f) = .ok v := by
  constructor
  · simp [member, h]
  · simp [indexOp, MapV.get, h]

/-- inserting already evaluated pairs with pairwise distinct keys one after the other, which is what a
map literal does with its entries (`C07.map_literal_key_then_value`), gives a map that holds exactly
those entries -/
theorem map_literal_contains_exactly (kvs : List (Key × Value))
    (hd : (kvs.map (·.1)).Nodup) (k : Key) :
    MapV.find? (kvs.foldl (fun m kv => MapV.insert m kv.1 kv.2) []) k =
      (kvs.find? (fun kv => kv.1 == k)).map (·.2) := by
  rw [MapV.insert_eq_alist, AList.foldl_insert_of_nodup kvs [] (by simpa using hd),
    List.nil_append, MapV.find?_eq_alist, AList.find_eq_find?]

theorem utf8_size_append (a b : Str) : strSize (a ++ b) = strSize a + strSize b := by
  induction a with
  | nil => simp [strSize]
  | cons c cs ih => simp [strSize, ih]; omega

/-- `size` is additive over `+` for lists and strings -/
theorem size_add (a b : Value) (s : Value) (h : arith .add a b = .ok s)
    (hk : (∃ x y, a = .list x ∧ b = .list y) ∨ (∃ x y, a = .str x ∧ b = .str y)) :
    ∃ na nb : Int, sizeFn a = .ok (.int na) ∧ sizeFn b = .ok (.int nb) ∧ sizeFn s = .ok (.int (na + nb)) := by
  rcases hk with ⟨x, y, rfl, rfl⟩ | ⟨x, y, rfl, rfl⟩
  · simp only [arith] at h
    cases h
    exact ⟨x.length, y.length, rfl, rfl, by simp [sizeFn]⟩
  · simp only [arith] at h
    cases h
    exact ⟨strSize x, strSize y, rfl, rfl, by simp [sizeFn, utf8_size_append]⟩

/-- `x + y` on lists: the elements of `x`, then those of `y`, each at its index -/
theorem concat_preserves_order (x y : List Value) (i : Nat) :
    arith .add (.list x) (.list y) = .ok (.list (x ++ y)) ∧
    (x ++ y)[i]? = if i < x.length then x[i]? else y[i - x.length]? := by
  constructor
  · rfl
  · by_cases h : i < x.length
    · simp [h, List.getElem?_append_left h]
    · simp [h, List.getElem?_append_right (by omega : x.length ≤ i)]

/-- `x in l`: some element of `l` equals `x` under the `==` of `Value` (C09) -/
theorem in_list_iff_exists_eq (x : Value) (l : List Value) :
    inOp x (.list l) = .ok (.bool (l.any (fun y => Value.eq y x))) := by
  cases x <;> rfl

/-- and `l.contains(x)` is the same test -/
theorem contains_list_is_in (x : Value) (l : List Value) :
    containsFn (.list l) x = inOp x (.list l) := by
  cases x <;> rfl

/-! ### non-vacuity: a field name that is identifier-like for a map that also has an int and a
bool key; the twin keys `1` and `1u` are distinct keys -/
example : IdentLikeFor [(.str "ab".toList, .int 1), (.int 5, .int 2), (.bool true, .int 3)] "ab".toList := by
  intro kv h
  simp only [List.mem_cons, List.mem_nil_iff, or_false] at h
  rcases h with rfl | rfl | rfl
  · intro _; rfl
  · intro h; exact absurd h (by decide)
  · intro h; exact absurd h (by decide)

example : (kvs : List (Key × Value)) → kvs = [(.int 1, .int 10), (.uint 1, .int 20)] →
    (kvs.map (·.1)).Nodup := by
  intro kvs h; subst h; decide

end Cel.Props.C14
