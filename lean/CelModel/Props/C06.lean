import CelModel.Lemmas.EvalEqs
/-!
# C06 — logical operators and the conditional evaluate only what they need

`a`, `b`, `c`, `x`, `y` are arbitrary expressions and the statements are about the *whole*
evaluation state (host-call log and step counter included), so they hold at every nesting depth
and inside macro bodies: the skipped operand contributes neither an error nor a log entry nor a
step.
-/
namespace Cel.Props.C06

/-- `a && b` with `a` false under `Value::to_bool`: the result is `false` and the state is exactly
the one `a` left: nothing of `b` happened, whatever `b` is -/
theorem and_skips_right (ctx : Ctx) (a b : Expr) (st st1 : St Value) (v : Value)
    (h : eval ctx a (tickSt st) = (.ok v, st1)) (hv : v.truthy = false) :
    eval ctx (.call "_&&_" [a, b]) st = (.ok (.bool false), st1) := by
  rw [eval_and, M.tick_bind, M.bind_ok h]
  simp [hv]

/-- `a` true: `b` is evaluated next, in the state `a` left, and the result is `b.to_bool()` -/
theorem and_evaluates_right_when_needed (ctx : Ctx) (a b : Expr) (st st1 : St Value) (v : Value)
    (h : eval ctx a (tickSt st) = (.ok v, st1)) (hv : v.truthy = true) :
    eval ctx (.call "_&&_" [a, b]) st =
      (eval ctx b >>= fun r => (pure (.bool r.truthy) : EvalM Value)) st1 := by
  rw [eval_and, M.tick_bind, M.bind_ok h]
  simp [hv]

/-- `a || b` with `a` true under `to_bool`: the result is `a`'s own value, not coerced to a bool, and
nothing of `b` happened -/
theorem or_skips_right (ctx : Ctx) (a b : Expr) (st st1 : St Value) (v : Value)
    (h : eval ctx a (tickSt st) = (.ok v, st1)) (hv : v.truthy = true) :
    eval ctx (.call "_||_" [a, b]) st = (.ok v, st1) := by
  rw [eval_or, M.tick_bind, M.bind_ok h]
  simp [hv]

/-- `a` false: the node is `b` evaluated in the state `a` left, its value returned as it is -/
theorem or_evaluates_right_when_needed (ctx : Ctx) (a b : Expr) (st st1 : St Value) (v : Value)
    (h : eval ctx a (tickSt st) = (.ok v, st1)) (hv : v.truthy = false) :
    eval ctx (.call "_||_" [a, b]) st = eval ctx b st1 := by
  rw [eval_or, M.tick_bind, M.bind_ok h]
  simp [hv]

/-- `c ? x : y`: after `c`, exactly one branch is evaluated, chosen by `c.to_bool()`, in the state `c`
left; the other contributes nothing -/
theorem cond_evaluates_one_branch (ctx : Ctx) (c x y : Expr) (st st1 : St Value) (cv : Value)
    (h : eval ctx c (tickSt st) = (.ok cv, st1)) :
    eval ctx (.call "_?_:_" [c, x, y]) st =
      if cv.truthy then eval ctx x st1 else eval ctx y st1 := by
  rw [eval_cond, M.tick_bind, M.bind_ok h]
  split <;> rfl

/-- an error of the first operand aborts all three forms with that error, before anything of the
other operands happens -/
theorem first_operand_error_aborts (ctx : Ctx) (a b c : Expr) (st st1 : St Value) (e : ErrC)
    (h : eval ctx a (tickSt st) = (.err e, st1)) :
    eval ctx (.call "_&&_" [a, b]) st = (.err e, st1) ∧
    eval ctx (.call "_||_" [a, b]) st = (.err e, st1) ∧
    eval ctx (.call "_?_:_" [a, b, c]) st = (.err e, st1) := by
  refine ⟨?_, ?_, ?_⟩
  · rw [eval_and, M.tick_bind, M.bind_err h]
  · rw [eval_or, M.tick_bind, M.bind_err h]
  · rw [eval_cond, M.tick_bind, M.bind_err h]

/-- `and_skips_right` read on the host-call log alone, which is what the correspondence check
observes: a skipped operand adds no entry (likewise `or_true_log`) -/
theorem and_false_log (ctx : Ctx) (a b : Expr) (st st1 : St Value) (v : Value)
    (h : eval ctx a (tickSt st) = (.ok v, st1)) (hv : v.truthy = false) :
    (eval ctx (.call "_&&_" [a, b]) st).2.log = st1.log := by
  rw [and_skips_right ctx a b st st1 v h hv]

theorem or_true_log (ctx : Ctx) (a b : Expr) (st st1 : St Value) (v : Value)
    (h : eval ctx a (tickSt st) = (.ok v, st1)) (hv : v.truthy = true) :
    (eval ctx (.call "_||_" [a, b]) st).2.log = st1.log := by
  rw [or_skips_right ctx a b st st1 v h hv]

/-! ### non-vacuity: a skipped operand that would panic, err and log -/
example : (eval {} (.call "_&&_" [.lit (.bool false), .unspecified]) {}).1 = .ok (.bool false) := by
  rw [and_skips_right {} _ _ {} (tickSt (tickSt {})) (.bool false)] <;> rfl
example :
    (eval {} (.call "_||_" [.lit (.bool true), .ident "undeclared"]) {}).1 = .ok (.bool true) := by
  rw [or_skips_right {} _ _ {} (tickSt (tickSt {})) (.bool true)] <;> rfl

end Cel.Props.C06
