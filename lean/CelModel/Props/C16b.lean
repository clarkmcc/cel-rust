import CelModel.Props.C16
/-!
# C16 (second part) — consequences for the accessors and for the order of instants

The accessors depend on the local time only, move with whole days as a calendar does, and stay in
their ranges; adding a duration keeps the order of instants.
-/
namespace Cel.Props.C16
open Cel.Time

theorem fields_local_time_only (u1 o1 u2 o2 : Int)
    (h : u1 + o1 * nsPerSec = u2 + o2 * nsPerSec) : fields u1 o1 = fields u2 o2 := by
  simp only [fields, h]

/-- every accessor returns the same number for timestamps with the same local time -/
theorem access_local_time_only (a : Accessor) (u1 o1 u2 o2 : Int)
    (h : u1 + o1 * nsPerSec = u2 + o2 * nsPerSec) : access a u1 o1 = access a u2 o2 := by
  simp only [access, fields_local_time_only u1 o1 u2 o2 h]

/-- shifting the offset by `k` seconds shows the fields of the instant `k` seconds later -/
theorem access_offset_shift (a : Accessor) (u o k : Int) :
    access a u (o + k) = access a (u + k * nsPerSec) o := by
  apply access_local_time_only
  simp only [nsPerSec]; omega

/-- the accessors at offset `o` are the UTC accessors of the local time -/
theorem access_is_utc_of_local (a : Accessor) (u o : Int) :
    access a u o = access a (u + o * nsPerSec) 0 := by
  apply access_local_time_only
  simp

theorem fields_add_days (u o k : Int) :
    (fields (u + k * nsPerDay) o).days = (fields u o).days + k ∧
    (fields (u + k * nsPerDay) o).hour = (fields u o).hour ∧
    (fields (u + k * nsPerDay) o).minute = (fields u o).minute ∧
    (fields (u + k * nsPerDay) o).second = (fields u o).second ∧
    (fields (u + k * nsPerDay) o).nanos = (fields u o).nanos := by
  -- whole days move the quotient by `k` and leave the remainder
  simp only [fields, Int.add_right_comm u, Int.add_mul_ediv_right _ _ (show nsPerDay ≠ 0 by decide),
    Int.add_mul_emod_self_right, and_self]

/-- one day later: same time of day, next day number, weekday advanced by one (cyclically) -/
theorem next_day (u o : Int) :
    (fields (u + nsPerDay) o).days = (fields u o).days + 1 ∧
    (fields (u + nsPerDay) o).hour = (fields u o).hour ∧
    (fields (u + nsPerDay) o).minute = (fields u o).minute ∧
    (fields (u + nsPerDay) o).second = (fields u o).second ∧
    (fields (u + nsPerDay) o).nanos = (fields u o).nanos ∧
    access .dayOfWeek (u + nsPerDay) o = (access .dayOfWeek u o + 1) % 7 := by
  have h := fields_add_days u o 1
  rw [Int.one_mul] at h
  refine ⟨h.1, h.2.1, h.2.2.1, h.2.2.2.1, h.2.2.2.2, ?_⟩
  simp only [(weekday_spec _ _).1, h.1]
  omega

/-- a week later `getDayOfWeek` is the same -/
theorem weekday_period_seven (u o : Int) :
    access .dayOfWeek (u + 7 * nsPerDay) o = access .dayOfWeek u o := by
  simp only [(weekday_spec _ _).1, (fields_add_days u o 7).1]
  omega

/-- `getHours`, `getMinutes`, `getSeconds`, `getMilliseconds` are within their clock ranges for every
timestamp and offset (no 60th second) -/
theorem clock_accessors_in_range (u o : Int) :
    0 ≤ access .hours u o ∧ access .hours u o ≤ 23 ∧
    0 ≤ access .minutes u o ∧ access .minutes u o ≤ 59 ∧
    0 ≤ access .seconds u o ∧ access .seconds u o ≤ 59 ∧
    0 ≤ access .milliseconds u o ∧ access .milliseconds u o ≤ 999 := by
  obtain ⟨_, h1, h2, h3, h4⟩ := accessors_recompose u o
  simp only [access]
  omega

/-- the calendar accessors are within their documented ranges (month 0-11, day of month 0-30,
date 1-31), for every timestamp -/
theorem calendar_accessors_in_range (u o : Int) :
    0 ≤ access .month u o ∧ access .month u o ≤ 11 ∧
    0 ≤ access .dayOfMonth u o ∧ access .dayOfMonth u o ≤ 30 ∧
    1 ≤ access .date u o ∧ access .date u o ≤ 31 ∧
    access .date u o = access .dayOfMonth u o + 1 := by
  obtain ⟨_, hm1, hm12, hd1, hdm⟩ := fields_civil u o
  have hdim := daysInMonth_le (fields u o).year (fields u o).month
  simp only [access]
  omega

theorem compare_congr {a b c d : Int} (hlt : a < b ↔ c < d) (heq : a = b ↔ c = d) :
    compare a b = compare c d := by
  simp only [compare, compareOfLessAndEq, propext hlt, propext heq]

/-- adding the same duration to two timestamps keeps their order (offsets play no part) -/
theorem add_duration_monotone (t1 t2 o1 o2 d : Int)
    (h1 : inRange (t1 + d) = true) (h2 : inRange (t2 + d) = true)
    (ht1 : inRange t1 = true) (ht2 : inRange t2 = true) :
    ∃ r1 r2, arith .add (.ts t1 o1) (.dur d) = .ok r1 ∧ arith .add (.ts t2 o2) (.dur d) = .ok r2 ∧
      Value.partialCmp r1 r2 = Value.partialCmp (.ts t1 o1) (.ts t2 o2) := by
  have a1 := ((add_sub_duration_inverse t1 o1 d ht1).1 h1).1
  have a2 := ((add_sub_duration_inverse t2 o2 d ht2).1 h2).1
  refine ⟨_, _, a1, a2, ?_⟩
  rw [(cmp_by_instant_ignores_offset _ _ _ _).1, (cmp_by_instant_ignores_offset _ _ _ _).1]
  exact congrArg some (compare_congr (by omega) (by omega))

/-- a timestamp compared with itself plus a duration: the order is the sign of the duration -/
theorem add_duration_order_is_sign (t o d : Int) (ht : inRange t = true) (h : inRange (t + d) = true) :
    ∃ r, arith .add (.ts t o) (.dur d) = .ok r ∧ Value.partialCmp (.ts t o) r = some (compare 0 d) := by
  have a1 := ((add_sub_duration_inverse t o d ht).1 h).1
  refine ⟨_, a1, ?_⟩
  rw [(cmp_by_instant_ignores_offset _ _ _ _).1]
  exact congrArg some (compare_congr (by omega) (by omega))

/-! ### non-vacuity: 1970-01-01T00:00:00Z and 1970-01-01T01:00:00+01:00 show different wall clocks,
1970-01-01T00:00:00Z and 1969-12-31T23:00:00Z seen at +01:00 show the same -/
example : access .hours 0 0 = 0 ∧ access .hours 0 3600 = 1 ∧ access .hours (-3600 * nsPerSec) 3600 = 0 := by
  decide

end Cel.Props.C16
