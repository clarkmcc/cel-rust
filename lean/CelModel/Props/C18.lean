import CelModel.Lemmas.SerdeLemmas
import CelModel.Lemmas.F64Lemmas
import CelModel.Props.C09
/-!
# C18 — exporting a CEL value to JSON is total and faithful

`Serde.toJson` models `Value::json`, `Serde.fromJson` the re-import `to_value(&serde_json::Value)`.
-/
namespace Cel.Props.C18
open Cel.Serde Cel.Serde.Lemmas

mutual
/-- the value contains a function value, or a duration outside signed 64-bit nanoseconds -/
def hasBlocker : Value → Bool
  | .fn _ _ => true
  | .dur ns => !inI64 ns
  | .list xs => hasBlockerList xs
  | .map m => hasBlockerEntries m
  | _ => false
def hasBlockerList : List Value → Bool
  | [] => false
  | v :: vs => hasBlocker v || hasBlockerList vs
def hasBlockerEntries : List (Key × Value) → Bool
  | [] => false
  | (_, v) :: es => hasBlocker v || hasBlockerEntries es
end

mutual
/-- export succeeds exactly for values that contain no function value and no over-wide
duration; for the excluded values it is an error (the model has no other outcome: no panic) -/
theorem to_json_total (v : Value) : (∃ j, toJson v = .ok j) ↔ hasBlocker v = false :=
  match v with
  | .int _ | .uint _ | .dbl _ | .str _ | .bytes _ | .bool _ | .null | .ts _ _ =>
    ⟨fun _ => rfl, fun _ => ⟨_, rfl⟩⟩
  | .fn _ _ => ⟨fun ⟨_, h⟩ => (nomatch h), fun h => (nomatch h)⟩
  | .dur ns => by
    rw [toJson_dur, show hasBlocker (.dur ns) = !inI64 ns from rfl]
    cases inI64 ns <;> simp
  | .list xs => by
    rw [toJson_list, show hasBlocker (.list xs) = hasBlockerList xs from rfl, ← total_list xs]
    cases toJsons xs <;> simp [Except.map]
  | .map m => by
    rw [toJson_map, show hasBlocker (.map m) = hasBlockerEntries m from rfl, ← total_entries m []]
    cases toJsonEntries m [] <;> simp [Except.map]
theorem total_list : ∀ xs : List Value, (∃ js, toJsons xs = .ok js) ↔ hasBlockerList xs = false
  | [] => ⟨fun _ => rfl, fun _ => ⟨_, rfl⟩⟩
  | v :: vs => by
    rw [toJsons_cons, show hasBlockerList (v :: vs) = (hasBlocker v || hasBlockerList vs) from rfl,
      Bool.or_eq_false_iff, ← to_json_total v, ← total_list vs]
    cases toJson v <;> cases toJsons vs <;> simp
theorem total_entries : ∀ (es : List (Key × Value)) (acc : List (Str × Json)),
    (∃ r, toJsonEntries es acc = .ok r) ↔ hasBlockerEntries es = false
  | [], acc => ⟨fun _ => rfl, fun _ => ⟨_, rfl⟩⟩
  | (k, v) :: es, acc => by
    rw [toJsonEntries_cons,
      show hasBlockerEntries ((k, v) :: es) = (hasBlocker v || hasBlockerEntries es) from rfl,
      Bool.or_eq_false_iff, ← to_json_total v]
    cases h : toJson v with
    | error e => simp
    | ok j =>
      rw [total_entries es]
      simp
end

/-- the document of each scalar kind: a non-finite double is `null`, bytes are base64 text, a timestamp
its RFC 3339 text, a duration its nanoseconds -/
theorem to_json_shape (i : Int) (s : Str) (b : Bool) (bits : UInt64) (bs : List UInt8)
    (t o : Int) (ns : Int) (hns : inI64 ns = true) :
    toJson (.int i) = .ok (.int i) ∧ toJson (.uint i) = .ok (.int i) ∧ toJson (.str s) = .ok (.str s) ∧
    toJson (.bool b) = .ok (.bool b) ∧ toJson .null = .ok .null ∧
    toJson (.dbl bits) = .ok (if F64.isFinite bits then .float bits else .null) ∧
    toJson (.bytes bs) = .ok (.str (base64 bs)) ∧
    toJson (.ts t o) = .ok (.str (Time.format t o)) ∧
    toJson (.dur ns) = .ok (.int ns) := by
  refine ⟨rfl, rfl, rfl, rfl, rfl, rfl, rfl, rfl, ?_⟩
  rw [toJson_dur, hns]; rfl

theorem toJsons_length : ∀ (xs : List Value) (js : List Json), toJsons xs = .ok js → js.length = xs.length
  | [], js, h => by cases h; rfl
  | v :: vs, js, h => by
    rw [toJsons_cons] at h
    split at h
    · cases h
    · split at h
      · cases h
      · rename_i js' hvs
        cases h
        rw [List.length_cons, List.length_cons, toJsons_length vs js' hvs]

/-- a list whose elements export becomes an array of as many documents; that the i-th document is the
export of the i-th element is not part of the statement -/
theorem list_to_array (xs : List Value) (js : List Json) (h : toJsons xs = .ok js) :
    toJson (.list xs) = .ok (.arr js) ∧ js.length = xs.length := by
  refine ⟨?_, toJsons_length xs js h⟩
  rw [toJson_list, h]; rfl

/-- base64: 4 output characters per 3 input bytes, padded -/
theorem base64_length (bs : List UInt8) : (base64 bs).length = 4 * ((bs.length + 2) / 3) := by
  fun_induction base64 bs with
  | case1 => rfl
  | case2 | case3 => simp only [List.length_cons, List.length_nil]
  | case4 a b c rest n ih =>
    simp only [List.length_cons, ih]
    omega

def isB64Char (c : Char) : Bool :=
  ('A' ≤ c && c ≤ 'Z') || ('a' ≤ c && c ≤ 'z') || ('0' ≤ c && c ≤ '9') || c == '+' || c == '/' || c == '='

theorem b64Char_ok {n : Nat} : isB64Char (b64Char n) = true := by
  by_cases h : n < 64
  · have : ∀ k : Fin 64, isB64Char (b64Char k.val) = true := by decide +kernel
    exact this ⟨n, h⟩
  · have h1 : ¬ n < 26 := by omega
    have h2 : ¬ n < 52 := by omega
    have h3 : ¬ n < 62 := by omega
    have h4 : (n == 62) = false := by simp; omega
    simp only [b64Char, h1, h2, h3, h4, if_false]
    decide

/-- … all of them from the standard alphabet or the padding character -/
theorem base64_alphabet (bs : List UInt8) : ∀ c ∈ base64 bs, isB64Char c = true := by
  fun_induction base64 bs with
  | case1 => exact fun _ h => nomatch h
  | case2 =>
    simp only [List.forall_mem_cons]
    exact ⟨b64Char_ok, b64Char_ok, by decide, by decide, fun _ h => nomatch h⟩
  | case3 =>
    simp only [List.forall_mem_cons]
    exact ⟨b64Char_ok, b64Char_ok, b64Char_ok, by decide, fun _ h => nomatch h⟩
  | case4 a b c rest n ih =>
    simp only [List.forall_mem_cons]
    exact ⟨b64Char_ok, b64Char_ok, b64Char_ok, b64Char_ok, ih⟩

mutual
/-- JSON-native values: int, uint, finite double, string, bool, null, lists and maps with
string keys (pairwise distinct) of such -/
def JsonNativeValue : Value → Bool
  | .int i => inI64 i
  | .uint n => inU64 n
  | .dbl b => F64.isFinite b
  | .str _ => true
  | .bool _ => true
  | .null => true
  | .list xs => JsonNativeValues xs
  | .map m => JsonNativeMap m
  | _ => false
def JsonNativeValues : List Value → Bool
  | [] => true
  | v :: vs => JsonNativeValue v && JsonNativeValues vs
def JsonNativeMap : List (Key × Value) → Bool
  | [] => true
  | (k, v) :: es =>
    (match k with | .str _ => true | _ => false) && JsonNativeValue v && JsonNativeMap es
      && !(es.any (fun e => e.1 == k))
end

/-- entry-by-entry round trip: string keys, exported values, and the re-imported value equals
the original -/
def RT : MapV → List (Str × Json) → Prop
  | [], [] => True
  | (k, v) :: r, (s, j) :: jr =>
    k = .str s ∧ toJson v = .ok j ∧ Value.eq (fromJson j) v = true ∧ RT r jr
  | _, _ => False

theorem rt_rel {m : MapV} {jm : List (Str × Json)} (h : RT m jm) : Rel m jm := by
  fun_induction RT m jm with
  | case1 => trivial
  | case2 k v r s j jr ih => exact ⟨h.1, h.2.1, ih h.2.2.2⟩
  | case3 => exact h.elim

theorem rt_find {m : MapV} {jm : List (Str × Json)} (h : RT m jm) (hn : (m.map (·.1)).Nodup) :
    ∀ p ∈ jm, Key.str p.1 ∈ m.map (·.1) ∧
      ∃ v', MapV.find? m (.str p.1) = some v' ∧ Value.eq (fromJson p.2) v' = true := by
  fun_induction RT m jm with
  | case1 => exact fun _ hp => nomatch hp
  | case2 k v r s j jr ih =>
    obtain ⟨hk, _, he, hr⟩ := h
    subst hk
    simp only [List.map_cons, List.nodup_cons] at hn
    intro p hp
    simp only [List.mem_cons] at hp
    rcases hp with rfl | hp
    · exact ⟨by simp, v, by simp [MapV.find?], he⟩
    · obtain ⟨hmem, v', hf, hv'⟩ := ih hr hn.2 p hp
      have hne : ¬ (Key.str s = Key.str p.1) := by
        intro e; rw [← e] at hmem; exact hn.1 hmem
      exact ⟨by simp [hmem], v', by simp [MapV.find?, hne, hf], hv'⟩
  | case3 => exact h.elim

theorem f64_eq_self {b : UInt64} (h : F64.isFinite b = true) : Value.eq (.dbl b) (.dbl b) = true := by
  show (F64.cmpDD (F64.decode b) (F64.decode b) == some .eq) = true
  unfold F64.isFinite at h
  cases hd : F64.decode b with
  | nan => rw [hd] at h; cases h
  | inf n => rw [hd] at h; cases h
  | fin n m e =>
    show (some (F64.EInt.cmp _ _) == some .eq) = true
    rw [F64.EInt.cmp_refl]
    rfl

theorem nodup_of_native : ∀ m : MapV, JsonNativeMap m = true → (m.map (·.1)).Nodup
  | [], _ => List.nodup_nil
  | (k, v) :: es, h => by
    have h : (_ && JsonNativeMap es && !(es.any (fun e => e.1 == k))) = true := h
    rw [Bool.and_eq_true, Bool.and_eq_true] at h
    obtain ⟨⟨_, hes⟩, hk⟩ := h
    simp only [List.map_cons, List.nodup_cons]
    refine ⟨?_, nodup_of_native es hes⟩
    intro hm
    simp only [List.mem_map] at hm
    obtain ⟨e, he, hek⟩ := hm
    have : es.any (fun e => e.1 == k) = true := by
      rw [List.any_eq_true]
      exact ⟨e, he, by simp [hek]⟩
    simp [this] at hk

mutual
/-- importing the exported document back yields a value equal (CEL equality, which identifies
an int with the numerically equal uint) to the original, for JSON-native values with distinct
keys -/
theorem json_roundtrip (v : Value) (h : JsonNativeValue v = true) :
    ∃ j, toJson v = .ok j ∧ Value.eq (fromJson j) v = true :=
  match v, h with
  | .int i, _ => by
    refine ⟨.int i, rfl, ?_⟩
    rw [fromJson_int]
    split <;> exact beq_self_eq_true i
  | .uint n, _ => by
    refine ⟨.int n, rfl, ?_⟩
    rw [fromJson_int]
    split <;> exact beq_self_eq_true n
  | .dbl b, h => by
    have h : F64.isFinite b = true := h
    exact ⟨.float b, by rw [toJson_dbl, h]; rfl, f64_eq_self h⟩
  | .str s, _ => ⟨.str s, rfl, beq_self_eq_true s⟩
  | .bool b, _ => ⟨.bool b, rfl, beq_self_eq_true b⟩
  | .null, _ => ⟨.null, rfl, rfl⟩
  | .bytes _, h | .dur _, h | .ts _ _, h | .fn _ _, h => nomatch h
  | .list xs, h => by
    obtain ⟨js, h1, h2⟩ := rt_list xs h
    exact ⟨.arr js, by rw [toJson_list, h1]; rfl, h2⟩
  | .map m, h => by
    obtain ⟨jm, hrt⟩ := rt_map m h
    have hn := nodup_of_native m h
    have hrel := rt_rel hrt
    have hjn := hrel.nodup hn
    refine ⟨.obj jm, hrel.toJson_map hjn, ?_⟩
    rw [show fromJson (.obj jm) = .map (fromJsonFields jm []) from rfl,
      fromJsonFields_fresh jm [] (by rw [← hrel.keys]; simpa using hn),
      C09.map_eq_iff_same_entries]
    simp only [List.nil_append, List.length_map, hrel.length, beq_self_eq_true,
      Bool.true_and, List.all_map, List.all_eq_true]
    intro p hp
    obtain ⟨v', hf, hv'⟩ := (rt_find hrt hn p hp).2
    simp only [Function.comp, hf, hv']
theorem rt_list : ∀ xs : List Value, JsonNativeValues xs = true →
    ∃ js, toJsons xs = .ok js ∧ eqList (fromJsons js) xs = true
  | [], _ => ⟨[], rfl, rfl⟩
  | v :: vs, h => by
    have h : (JsonNativeValue v && JsonNativeValues vs) = true := h
    rw [Bool.and_eq_true] at h
    obtain ⟨j, h1, h2⟩ := json_roundtrip v h.1
    obtain ⟨js, g1, g2⟩ := rt_list vs h.2
    refine ⟨j :: js, by rw [toJsons_cons, h1, g1], ?_⟩
    show (Value.eq (fromJson j) v && eqList (fromJsons js) vs) = true
    rw [h2, g2]; rfl
theorem rt_map : ∀ m : List (Key × Value), JsonNativeMap m = true → ∃ jm, RT m jm
  | [], _ => ⟨[], trivial⟩
  | (k, v) :: es, h => by
    have h : (_ && JsonNativeValue v && JsonNativeMap es && _) = true := h
    rw [Bool.and_eq_true, Bool.and_eq_true, Bool.and_eq_true] at h
    obtain ⟨⟨⟨hk, hv⟩, hes⟩, _⟩ := h
    obtain ⟨j, h1, h2⟩ := json_roundtrip v hv
    obtain ⟨jr, hr⟩ := rt_map es hes
    cases k with
    | str s => exact ⟨(s, j) :: jr, rfl, h1, h2, hr⟩
    | _ => cases hk
end

example : toJson (.list [.int 1, .fn "f" []]) = .error .value := by
  rfl
example : toJson (.map [(.int 1, .bytes [77, 97, 110])]) = .ok (.obj [("1".toList, .str "TWFu".toList)]) := by
  have h1 : intToDec 1 = "1".toList := by decide
  have h2 : base64 [77, 97, 110] = "TWFu".toList := by decide
  rw [← h1, ← h2]
  rfl

end Cel.Props.C18
