import CelModel.Lemmas.EvalEqs
/-!
# C07 — each operand is evaluated at most once, left to right

The theorems are equations between monadic computations: the right-hand sides spell out the
order in which the operand evaluations are sequenced (receiver, then arguments left to right,
each exactly once), so they determine the host-call log and the step count completely.
-/
namespace Cel.Props.C07

theorem runAll_evalThunks (ctx : Ctx) (args : List Expr) :
    runAll (evalThunks ctx args) = evalList ctx args := by
  induction args with
  | nil => rw [evalThunks_nil, runAll_nil, evalList_nil]
  | cons e es ih => rw [evalThunks_cons, runAll_cons, evalList_cons, ih]

theorem fromValue_value (v : Value) : fromValue .value v = .ok v := by
  cases v <;> rfl

theorem extract_positional (this : Option Value) (thunks : List (EvalM Value)) (argEs : List Expr) :
    ∀ (k idx : Nat), idx + k = thunks.length →
      extract this thunks argEs (List.replicate k (.pos .value)) idx =
        runAll (thunks.drop idx) := by
  intro k
  induction k with
  | zero =>
    intro idx h
    have : thunks.drop idx = [] := List.drop_eq_nil_of_le (by omega)
    rw [this, List.replicate_zero, extract_nil, runAll_nil]
  | succ k ih =>
    intro idx h
    have hlt : idx < thunks.length := by omega
    have hd : thunks.drop idx = thunks[idx] :: thunks.drop (idx + 1) :=
      List.drop_eq_getElem_cons hlt
    rw [hd, List.replicate_succ, extract_cons, runAll_cons, extractOne, ← ih (idx + 1) (by omega)]
    simp only [fetch, List.getElem?_eq_getElem hlt, fromValue_value, M.lift_ok, M.bind_assoc,
      M.pure_bind]

/-- global call of a host function taking `n` positional values: the arguments once each, left to
right, then the call is logged with exactly those values -/
theorem global_call_args_in_order (ctx : Ctx) (f : String) (args : List Expr) (body : HostBody)
    (hf : ctx.getFunction f = some (.host (List.replicate args.length (.pos .value)) body))
    (hop : args.length = 0 ∨ args.length ≥ 4 ∨
      (args.length = 3 ∧ (f == condName) = false) ∨ (args.length = 2 ∧ binOpOfName f = none) ∨
      (args.length = 1 ∧ unOpOfName f = none)) :
    eval ctx (.call f args) = (do
      M.tick
      let vs ← evalList ctx args
      M.logCall { name := f, args := vs }
      match body with
      | .echo => pure (.list vs)
      | .fail => M.throw .functionError
      | .const v => pure v
      | .first => pure (vs.head?.getD .null)) := by
  have hlen := evalThunks_length ctx args
  rw [eval_call, callNode_fn ctx f none args (.of_arity (by rw [hlen]; exact hop))]
  simp only [fnCall, hf, applyFn_host]
  rw [extract_positional none (evalThunks ctx args) args args.length 0 (by omega), List.drop_zero,
    runAll_evalThunks]
  cases body <;> rfl

/-- receiver-style call `t.f(args)` of a host function `(This<Value>, Value, …)`: the receiver first,
then the arguments left to right, each once, then the call is logged with exactly those values -/
theorem receiver_then_args_in_order (ctx : Ctx) (f : String) (t : Expr) (args : List Expr)
    (body : HostBody)
    (hf : ctx.getFunction f =
      some (.host (.this .value :: List.replicate args.length (.pos .value)) body))
    (hop : args.length = 0 ∨ args.length ≥ 4 ∨
      (args.length = 3 ∧ (f == condName) = false) ∨ (args.length = 2 ∧ binOpOfName f = none) ∨
      (args.length = 1 ∧ unOpOfName f = none)) :
    eval ctx (.mcall f t args) = (do
      M.tick
      let tv ← eval ctx t
      let vs ← evalList ctx args
      M.logCall { name := f, args := tv :: vs }
      match body with
      | .echo => pure (.list (tv :: vs))
      | .fail => M.throw .functionError
      | .const v => pure v
      | .first => pure tv) := by
  have hlen := evalThunks_length ctx args
  have hex : ∀ tv : Value,
      extract (some tv) (evalThunks ctx args) args
        (.this .value :: List.replicate args.length (.pos .value)) 0 =
      (evalList ctx args >>= fun vs => (pure (tv :: vs) : EvalM (List Value))) := by
    intro tv
    rw [extract_cons, extractOne_this_some, recv, fromValue_value, M.lift_ok, M.pure_bind,
      M.pure_bind, extract_positional (some tv) (evalThunks ctx args) args args.length 0 (by omega),
      List.drop_zero, runAll_evalThunks]
  rw [eval_mcall, callNode_fn ctx f _ args (.of_arity (by rw [hlen]; exact hop))]
  simp only [fnCall, hf, applyFn_host, hex, M.bind_assoc, M.pure_bind]
  cases body <;> rfl

/-- every binary operator but `&&`, `||`: left operand, then right operand, each once, then the
operator impl of `Value` on the two values -/
theorem strict_binop_operands_once_in_order (ctx : Ctx) (op : BinOp) (a b : Expr)
    (hs : op ≠ .and ∧ op ≠ .or) :
    eval ctx (.call op.name [a, b]) = (do
      M.tick
      let l ← eval ctx a
      let r ← eval ctx b
      M.lift (applyBin op l r)) := by
  rw [eval_call, evalThunks_two, callNode_bin ctx _ op none (binOpOfName_name op) hs]

/-- `!_`, `-_`, `@not_strictly_false`: the operand once -/
theorem unop_operand_once (ctx : Ctx) (op : UnOp) (a : Expr) :
    eval ctx (.call op.name [a]) = (do
      M.tick
      let v ← eval ctx a
      M.lift (applyUn op v)) := by
  rw [eval_call, evalThunks_one, callNode_un ctx _ op none (unOpOfName_name op)]

/-- list literals: elements left to right, each once (`evalList`, for `resolve_all`, is a plain left
fold) -/
theorem list_literal_in_order (ctx : Ctx) (e : Expr) (es : List Expr) :
    eval ctx (.list (e :: es)) = (do
      M.tick
      let v ← eval ctx e
      let vs ← evalList ctx es
      pure (.list (v :: vs))) := by
  rw [eval_list, evalList_cons]
  simp only [M.bind_assoc, M.pure_bind]

/-- map literals: key before value, entries in source order; a key of an unsupported type is an
error before its value is evaluated -/
theorem map_literal_key_then_value (ctx : Ctx) (k v : Expr) (rest : List (Expr × Expr))
    (acc : MapV) :
    evalEntries ctx ((k, v) :: rest) acc = (do
      let kv ← eval ctx k
      match kv.toKey? with
      | none => M.throw .badKey
      | some key => do
        let vv ← eval ctx v
        evalEntries ctx rest (MapV.insert acc key vv)) :=
  evalEntries_cons ctx k v rest acc

end Cel.Props.C07
