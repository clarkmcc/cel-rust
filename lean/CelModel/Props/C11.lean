import CelModel.CtxOps
import CelModel.Macros
import CelModel.Lemmas.Monad
import CelModel.Props.C07
import CelModel.Lemmas.AList
/-!
# C11 — variables resolve to the innermost binding and scopes never leak

The context is an argument of `eval`, never part of the state it threads, so what is evaluated
after an inner scope was used cannot see it: that half of "never leak" holds by construction.
What is proved is about lookups and about the host-side operations `bind` / `push` / `pop`:
definitions touch the innermost scope only and `pop` undoes `push`.  The statements about macros
contain no comprehension node: they are about the context `c.push [(accu, acc), (v, x)]`; that a
macro evaluates its body in a context of this shape is C10 (`bodyAt`).
-/
namespace Cel.Props.C11

/-- one scope as a finite function from names to values -/
def scopeFn (s : Scope) : String → Option Value := fun n => Ctx.lookupScope s n

/-- `insert` on a scope is functional update (redefinition replaces, never duplicates) -/
theorem lookup_scopeInsert (s : Scope) (n m : String) (v : Value) :
    Ctx.lookupScope (Ctx.scopeInsert s n v) m =
      if m = n then some v else Ctx.lookupScope s m :=
  Ctx.lookup_scopeInsert s n m v

/-- lookup returns the value from the innermost scope that defines the name -/
theorem lookup_innermost (scopes : List Scope) (n : String) :
    Ctx.getVar scopes n = scopes.findSome? (fun s => Ctx.lookupScope s n) := by
  induction scopes with
  | nil => rfl
  | cons s rest ih =>
    simp only [Ctx.getVar, List.findSome?_cons]
    cases Ctx.lookupScope s n <;> simp [ih]

/-- defining or redefining a name in the current scope changes what that name resolves to and
nothing else -/
theorem define_then_lookup (c : Ctx) (n m : String) (v : Value) (hs : c.scopes ≠ []) :
    (c.bind n v).getVariable m = if m = n then some v else c.getVariable m := by
  unfold Ctx.bind Ctx.getVariable
  match hsc : c.scopes, hs with
  | s :: rest, _ =>
    simp only [Ctx.getVar, lookup_scopeInsert]
    by_cases h : m = n
    · simp [h]
    · simp [h]

/-- an inner scope shadows: a definition there wins over any outer binding of the name -/
theorem inner_definition_shadows (c : Ctx) (n : String) (v : Value) :
    ((c.push []).bind n v).getVariable n = some v := by
  simp [Ctx.push, Ctx.bind, Ctx.getVariable, Ctx.getVar, Ctx.scopeInsert, Ctx.lookupScope]

theorem inner_scope_sees_outer {c : Ctx} {s : Scope} {m : String}
    (h : Ctx.lookupScope s m = none) : (c.push s).getVariable m = c.getVariable m := by
  rw [Ctx.getVariable_push, h]

theorem foldl_bind_push (c : Ctx) (s : Scope) (defs : List (String × Value)) :
    defs.foldl (fun c' d => c'.bind d.1 d.2) (c.push s) =
      c.push (defs.foldl (fun s' d => Ctx.scopeInsert s' d.1 d.2) s) := by
  induction defs generalizing s with
  | nil => rfl
  | cons d ds ih => exact ih (Ctx.scopeInsert s d.1 d.2)

theorem pop_push {c : Ctx} {s : Scope} (hs : c.scopes ≠ []) : (c.push s).pop = c := by
  obtain ⟨scopes, fns, regex⟩ := c
  cases scopes with
  | nil => exact absurd rfl hs
  | cons s0 rest => rfl

/-- inner scopes never alter their parents: whatever is defined in an inner scope, after it is
dropped the context is exactly what it was -/
theorem drop_restores_parent (c : Ctx) (defs : List (String × Value)) (hs : c.scopes ≠ []) :
    (defs.foldl (fun c' d => c'.bind d.1 d.2) (c.push [])).pop = c := by
  rw [foldl_bind_push]
  exact pop_push hs

/-- variables and functions live in separate namespaces -/
theorem variables_and_functions_disjoint (c : Ctx) (n m : String) (v : Value) (k : FnKind) :
    (c.bind n v).getFunction m = c.getFunction m ∧
    (c.addFunction n k).getVariable m = c.getVariable m := by
  constructor
  · unfold Ctx.bind Ctx.getFunction
    split <;> rfl
  · unfold Ctx.addFunction Ctx.getVariable
    split <;> rfl

/-- a variable and a function may share a name without either hiding the other -/
theorem same_name_variable_and_function (c : Ctx) (n : String) (v : Value) (k : FnKind)
    (hroot : ∃ s, c.scopes = [s]) :
    ((c.addFunction n k).bind n v).getVariable n = some v ∧
    ((c.addFunction n k).bind n v).hasFunction n = true := by
  obtain ⟨s, hs⟩ := hroot
  constructor
  · simp [Ctx.addFunction, Ctx.bind, Ctx.getVariable, hs, Ctx.getVar, lookup_scopeInsert]
  · simp [Ctx.addFunction, Ctx.bind, Ctx.hasFunction, Ctx.getFunction, hs, Ctx.lookupFn]

/-- functions registered on a child scope are ignored; the parent's registry is what counts -/
theorem add_function_on_child_ignored (c : Ctx) (s : Scope) (n : String) (k : FnKind)
    (hs : c.scopes ≠ []) : (c.push s).addFunction n k = c.push s := by
  unfold Ctx.push Ctx.addFunction
  match hsc : c.scopes, hs with
  | s0 :: rest, _ => rfl

/-- the scope a macro opens for its body: the accumulator, then the iteration variable -/
theorem lookup_macroScope (v m : String) (acc x : Value) :
    Ctx.lookupScope [(Macros.accu, acc), (v, x)] m =
      if Macros.accu = m then some acc else if v = m then some x else none := by
  rw [Ctx.lookupScope_eq_alist]
  rfl

/-- in the context a macro body is evaluated in, the iteration variable denotes the current element,
whatever the outer context binds under that name -/
theorem macro_var_denotes_current_element (c : Ctx) (v : String) (acc x : Value)
    (hv : v ≠ Macros.accu) (st : St Value) :
    eval (c.push [(Macros.accu, acc), (v, x)]) (.ident v) st = (.ok x, tickSt st) := by
  have h : Ctx.lookupScope [(Macros.accu, acc), (v, x)] v = some x := by
    rw [lookup_macroScope, if_neg (Ne.symm hv), if_pos rfl]
  rw [eval_ident, Ctx.getVariable_push_of_lookup c h]
  rfl

/-- names other than the iteration variable and the accumulator keep their outer meaning
inside the body -/
theorem outer_names_visible_in_body (c : Ctx) (v m : String) (acc x : Value)
    (h1 : m ≠ v) (h2 : m ≠ Macros.accu) :
    (c.push [(Macros.accu, acc), (v, x)]).getVariable m = c.getVariable m := by
  apply inner_scope_sees_outer
  rw [lookup_macroScope, if_neg (Ne.symm h2), if_neg (Ne.symm h1)]

/-- the expression following a macro in a list literal is evaluated in the original context
(`C07.list_literal_in_order` for two elements; `macroExpr` is any expression) -/
theorem after_macro_outer_binding_unchanged (c : Ctx) (macroExpr : Expr) (n : String) :
    eval c (.list [macroExpr, .ident n]) = (do
      M.tick
      let r ← eval c macroExpr
      let v ← eval c (.ident n)
      pure (.list [r, v])) := by
  rw [C07.list_literal_in_order]
  apply M.bind_congr; intro _
  apply M.bind_congr; intro r
  simp only [evalList_cons, evalList_nil, M.bind_assoc, M.pure_bind]

example : ((({} : Ctx).bind "x" (.int 1)).push [] |>.bind "x" (.int 2)).getVariable "x" = some (.int 2) := by
  rfl
example : (((({} : Ctx).bind "x" (.int 1)).push [] |>.bind "x" (.int 2)).pop).getVariable "x" = some (.int 1) := by
  rfl

end Cel.Props.C11
