import CelModel.Lemmas.OfIntNearest
/-!
# C13 (continued) — `double(int)` beyond 2^53 is the nearest double, ties to even

`F64.ofInt` models Rust's `i as f64` for `i64`/`u64` (exact for `|i| ≤ 2^53`:
`double_of_int_exact_small`, C13).  For every integer of either range the result is a finite double
at least as close to `i` as any other, the one with the even significand on a tie.  Distances are
measured on the exact keys (`F64.keyD`, integers scaled by 2^1074).
-/
namespace Cel.Props.C13
open Cel.Lemmas.OfIntNearest

/-- the exact (scaled) key of a double, when finite -/
def finKey (b : UInt64) : Option Int :=
  match F64.keyD (F64.decode b) with
  | some (.fin k) => some k
  | _ => none

def significand (b : UInt64) : Nat :=
  match F64.decode b with
  | .fin _ m _ => m
  | _ => 0

theorem finKey_of_decode {b : UInt64} {neg : Bool} {m : Nat} {e : Int}
    (h : F64.decode b = .fin neg m e) :
    finKey b = some (F64.sgn neg ((m : Int) * 2 ^ (e + 1074).toNat)) := by
  unfold finKey; rw [h]; rfl

theorem finKey_some (b : UInt64) (k : Int) (h : finKey b = some k) :
    ∃ neg m e, F64.decode b = .fin neg m e ∧ m < 2 ^ 53 ∧
      k = F64.sgn neg ((m : Int) * 2 ^ (e + 1074).toNat) := by
  cases hd : F64.decode b with
  | nan => unfold finKey at h; rw [hd] at h; cases h
  | inf neg => unfold finKey at h; rw [hd] at h; cases neg <;> cases h
  | fin neg m e =>
    rw [finKey_of_decode hd] at h
    injection h with h
    exact ⟨neg, m, e, rfl, (F64.decodeNat_fin_bounds hd).1, h.symm⟩

theorem finKey_zero : finKey (F64.ofInt 0) = some 0 := by decide

/-- `double(i)` is finite for every i64 / u64 -/
theorem double_of_int_finite (i : Int) (h : i.natAbs < 2 ^ 64) :
    ∃ k, finKey (F64.ofInt i) = some k := by
  by_cases hz : i = 0
  · exact ⟨0, hz ▸ finKey_zero⟩
  · obtain ⟨M, e, hdec, _, _⟩ := ofInt_nearest i hz h
    exact ⟨_, finKey_of_decode hdec⟩

/-- nearest: no finite double is strictly closer to `i` -/
theorem double_of_int_nearest (i : Int) (h : i.natAbs < 2 ^ 64) (k : Int)
    (hk : finKey (F64.ofInt i) = some k) (b' : UInt64) (k' : Int) (hk' : finKey b' = some k') :
    (k - i * F64.twoScale).natAbs ≤ (k' - i * F64.twoScale).natAbs := by
  by_cases hz : i = 0
  · subst hz
    rw [finKey_zero] at hk
    injection hk with hk
    omega
  · obtain ⟨M, e, hdec, _, hall⟩ := ofInt_nearest i hz h
    rw [finKey_of_decode hdec] at hk
    injection hk with hk
    obtain ⟨neg', m', e', _, hm', hk'e⟩ := finKey_some b' k' hk'
    rw [← hk, hk'e]
    exact (hall neg' m' e' hm').1

/-- ties to even: if a different double is exactly as close, the result has an even significand -/
theorem double_of_int_ties_to_even (i : Int) (h : i.natAbs < 2 ^ 64) (k : Int)
    (hk : finKey (F64.ofInt i) = some k) (b' : UInt64) (k' : Int) (hk' : finKey b' = some k')
    (hne : k' ≠ k) (htie : (k - i * F64.twoScale).natAbs = (k' - i * F64.twoScale).natAbs) :
    significand (F64.ofInt i) % 2 = 0 := by
  by_cases hz : i = 0
  · subst hz
    rw [finKey_zero] at hk
    injection hk with hk
    omega
  · obtain ⟨M, e, hdec, _, hall⟩ := ofInt_nearest i hz h
    rw [finKey_of_decode hdec] at hk
    injection hk with hk
    obtain ⟨neg', m', e', _, hm', hk'e⟩ := finKey_some b' k' hk'
    have hsig : significand (F64.ofInt i) = M := by unfold significand; rw [hdec]
    rw [hsig]
    rw [← hk, hk'e] at htie hne
    exact (hall neg' m' e' hm').2 htie hne

/-- `double(i)` has the sign of `i` and is not zero for `i ≠ 0` -/
theorem double_of_int_sign (i : Int) (h : i.natAbs < 2 ^ 64) (hz : i ≠ 0) :
    ∃ m e, F64.decode (F64.ofInt i) = .fin (decide (i < 0)) m e ∧ 0 < m := by
  obtain ⟨M, e, hdec, hM, _⟩ := ofInt_nearest i hz h
  exact ⟨M, e, hdec, hM⟩

/-! non-vacuity: 2^53 + 1 is a tie between 2^53 and 2^53 + 2 and goes to the even significand;
2^63 - 1 (i64::MAX) rounds up to 2^63; u64::MAX rounds up to 2^64 -/
example : F64.ofInt (2 ^ 53 + 1) = 0x4340000000000000 := by decide +kernel
example : F64.ofInt (2 ^ 53 + 3) = 0x4340000000000002 := by decide +kernel
example : F64.ofInt (2 ^ 63 - 1) = 0x43e0000000000000 := by decide +kernel
example : F64.ofInt (2 ^ 64 - 1) = 0x43f0000000000000 := by decide +kernel
example : F64.ofInt (-(2 ^ 63)) = 0xc3e0000000000000 := by decide +kernel

end Cel.Props.C13
