import CelModel.Lemmas.Radix
/-!
# C12 — string and bytes literals denote exactly the characters written

About `StrLit.parseString` (port of `antlr/src/parse.rs::parse_string`) and `StrLit.parseBytes`
(`visit_Bytes` + `parse_bytes`).  The three round trips (`string_roundtrip_partial`,
`triple_quoted_roundtrip_partial`, `bytes_roundtrip`) are instances of `decode_spelled`: a table of
spellings, and one step of the decoder for each of them (`Spells`).

Known defects of the code (DESIGN.md D5a, D5b), as theorems about the model: in a one-line literal
an escaped quote of the other kind keeps its backslash (`other_quote_escape_counterexample`; hence
`spell` does not offer that spelling); a one-line raw literal whose body ends in an unpaired
backslash loses it and gains the closing quote (`raw_dangling_backslash`,
`raw_backslash_quote_counterexample`), so `raw_no_escape_processing_partial2` carries that
restriction and `raw_no_escape_processing_partial_false` shows it is needed.
-/
namespace Cel.Props.C12
open Cel.StrLit Cel.Lemmas.Radix

/-- (`hexDigitChar` of `StrOps.lean` again; that one belongs to the wire format) -/
def hexDigit (n : Nat) : Char := if n < 10 then Char.ofNat (48 + n) else Char.ofNat (87 + n)
def hexDigitUpper (n : Nat) : Char := if n < 10 then Char.ofNat (48 + n) else Char.ofNat (55 + n)

/-- `width` lower-case hex digits of `n`, most significant first -/
def hexN : (width : Nat) → Nat → Str
  | 0, _ => []
  | w + 1, n => hexN w (n / 16) ++ [hexDigit (n % 16)]

def hexNUpper : (width : Nat) → Nat → Str
  | 0, _ => []
  | w + 1, n => hexNUpper w (n / 16) ++ [hexDigitUpper (n % 16)]

/-- three octal digits -/
def oct3 (n : Nat) : Str :=
  [Char.ofNat (48 + n / 64 % 8), Char.ofNat (48 + n / 8 % 8), Char.ofNat (48 + n % 8)]

/-- a quote character: literals are delimited by one or by three (`Style.triple`) of it -/
inductive Style where
  | single | double
deriving Repr, DecidableEq

def Style.quote : Style → Char
  | .single => '\'' | .double => '"'

/-- the ways one character can be written inside a non-raw literal -/
inductive Spelling where
  | verbatim   -- the character itself (not a backslash, not the delimiter, not a line break)
  | simple     -- \a \b \f \n \r \t \v \\ \? \` and the escaped delimiter
  | hexx       -- \xHH   (code points up to 0xFF)
  | hexX       -- \XHH
  | oct        -- \OOO   (code points up to 0xFF)
  | u4         -- \uHHHH (code points up to 0xFFFF)
  | u8         -- \UHHHHHHHH
deriving Repr, DecidableEq

def simpleEscape (st : Style) (c : Char) : Option Char :=
  if c == Char.ofNat 7 then some 'a' else if c == Char.ofNat 8 then some 'b'
  else if c == Char.ofNat 12 then some 'f' else if c == '\n' then some 'n'
  else if c == '\r' then some 'r' else if c == '\t' then some 't'
  else if c == Char.ofNat 11 then some 'v' else if c == '\\' then some '\\'
  else if c == '?' then some '?' else if c == '`' then some '`'
  else if c == st.quote then some c else none

def spell (st : Style) (sp : Spelling) (c : Char) : Option Str :=
  match sp with
  | .verbatim =>
    if c == '\\' || c == '\'' || c == '"' || c == '\n' || c == '\r' then none else some [c]
  | .simple => (simpleEscape st c).map (fun e => ['\\', e])
  | .hexx => if c.toNat < 256 then some ('\\' :: 'x' :: hexN 2 c.toNat) else none
  | .hexX => if c.toNat < 256 then some ('\\' :: 'X' :: hexNUpper 2 c.toNat) else none
  | .oct => if c.toNat < 256 then some ('\\' :: oct3 c.toNat) else none
  | .u4 => if c.toNat < 65536 then some ('\\' :: 'u' :: hexN 4 c.toNat) else none
  | .u8 => some ('\\' :: 'U' :: hexN 8 c.toNat)

def spellAll (st : Style) : List (Spelling × Char) → Option Str
  | [] => some []
  | (sp, c) :: rest =>
    match spell st sp c, spellAll st rest with
    | some a, some b => some (a ++ b)
    | _, _ => none

theorem charOfNat_toNat (c : Char) : charOfNat? c.toNat = some c := by
  have h : c.toNat.isValidChar := c.valid
  unfold charOfNat?
  rw [dif_pos h]
  congr 1
  exact Char.ext UInt32.ofNat_toNat

theorem charOfNat_invalid (n : Nat) (h : ¬ n.isValidChar) : charOfNat? n = none := by
  unfold charOfNat?
  exact dif_neg h

theorem toNat_ofNat (n : Nat) (h : n.isValidChar) : (Char.ofNat n).toNat = n := by
  simp [Char.ofNat, h, Char.ofNatAux, Char.toNat, UInt32.toNat_ofNatLT]

theorem isValidChar_of_lt (n : Nat) (h : n < 256) : n.isValidChar := by
  omega

theorem char_toNat_lt (c : Char) : c.toNat < 16 ^ 8 := by
  have : c.toNat.isValidChar := c.valid
  omega

theorem hexN_eq (w n : Nat) : hexN w n = digits 16 hexDigit w n := by
  induction w generalizing n with
  | zero => rfl
  | succ w ih => rw [hexN, digits, ih]

theorem hexNUpper_eq (w n : Nat) : hexNUpper w n = digits 16 hexDigitUpper w n := by
  induction w generalizing n with
  | zero => rfl
  | succ w ih => rw [hexNUpper, digits, ih]

theorem oct3_eq (n : Nat) : oct3 n = digits 8 (fun d => Char.ofNat (48 + d)) 3 n := by
  simp [oct3, digits, Nat.div_div_eq_div_mul]

theorem reads_hexDigit : Reads 16 hexDigit := .of_table (by decide)

theorem reads_hexDigitUpper : Reads 16 hexDigitUpper := .of_table (by decide)

theorem reads_octDigit : Reads 8 (fun d => Char.ofNat (48 + d)) := .of_table (by decide)

theorem unicodeHex_digits {dig : Nat → Char} (hr : Reads 16 dig) {w n : Nat} (hw : 0 < w)
    (hn : n < 16 ^ w) (rest : Str) :
    unicodeHex w (digits 16 dig w n ++ rest) = (charOfNat? n).map (fun c => (c, rest)) := by
  unfold unicodeHex
  rw [List.take_left' digits_length, List.drop_left' digits_length, parseRadix_digits hr hw hn]

theorem octLead : ∀ d, d < 4 → Char.ofNat (48 + d) ∈ ['0', '1', '2', '3'] := by decide

theorem unicodeOct_oct3 {n : Nat} {rest : Str} (hn : n < 256) :
    unicodeOct (Char.ofNat (48 + n / 64 % 8))
      (Char.ofNat (48 + n / 8 % 8) :: Char.ofNat (48 + n % 8) :: rest) =
      (charOfNat? n).map (fun c => (c, rest)) := by
  have hp := parseRadix_digits reads_octDigit (w := 3) (by omega) (show n < 8 ^ 3 by omega)
  rw [← oct3_eq, oct3] at hp
  simp [unicodeOct, hp]
  omega

/-! `inS`, `inD`: any state inside a literal (`hq`). -/

section steps
variable {lit : Bool} {f : Nat} {inS inD : Bool} (hq : (inS || inD) = true) {acc : Str}
include hq

theorem quoted_push (c : Char) {rest : Str} (h1 : c ≠ '\\') (h2 : c = '\'' → (inD || lit) = true)
    (h3 : c = '"' → (inS || lit) = true) :
    quoted lit (f + 1) (c :: rest) inS inD acc = quoted lit f rest inS inD (c :: acc) := by
  -- the equations `quoted.eq_n` are split on the shape of `rest`, and `simp only [quoted]` loops
  rw [quoted.eq_def]
  simp only [hq, beq_iff_eq, h1, Bool.and_true, Bool.not_true, Bool.false_eq_true, ↓reduceIte]
  split
  · rw [if_pos (h2 ‹_›)]
  · split
    · rw [if_pos (h3 ‹_›)]
    · rfl

theorem quoted_hex {x : Char} {w : Nat} (hx : (x, w) ∈ [('x', 2), ('X', 2), ('u', 4), ('U', 8)])
    (r2 : Str) :
    quoted lit (f + 1) ('\\' :: x :: r2) inS inD acc =
      (unicodeHex w r2).bind fun p => quoted lit f p.2 inS inD (p.1 :: acc) := by
  simp only [List.mem_cons, Prod.mk.injEq, List.not_mem_nil, or_false] at hx
  -- per letter: the decoder's `match` on the result of `unicodeHex` is the `bind`, by cases
  rcases hx with ⟨rfl, rfl⟩ | ⟨rfl, rfl⟩ | ⟨rfl, rfl⟩ | ⟨rfl, rfl⟩
  all_goals
    simp (decide := true) only [quoted, hq, ↓reduceIte]
    cases unicodeHex _ r2 <;> rfl

theorem quoted_oct {c2 : Char} (hc : c2 ∈ ['0', '1', '2', '3']) (r2 : Str) :
    quoted lit (f + 1) ('\\' :: c2 :: r2) inS inD acc =
      (unicodeOct c2 r2).bind fun p => quoted lit f p.2 inS inD (p.1 :: acc) := by
  simp only [List.mem_cons, List.not_mem_nil, or_false] at hc
  rcases hc with rfl | rfl | rfl | rfl
  all_goals
    simp (decide := true) only [quoted, hq, ↓reduceIte]
    cases unicodeOct _ r2 <;> rfl

end steps

def Style.inS : Style → Bool | .single => true | .double => false
def Style.inD : Style → Bool | .single => false | .double => true

theorem Style.inQ (st : Style) : (st.inS || st.inD) = true := by
  cases st <;> rfl

theorem Style.ne_quote (st : Style) {a : Char} (h : a ≠ '\'' ∧ a ≠ '"') : a ≠ st.quote := by
  cases st
  · exact h.1
  · exact h.2

/-- one link of an `if` chain of `some`s (`simpleEscape`, `simpleEscapeByte`) -/
theorem ite_some_eq {α : Type} {p : Prop} [Decidable p] {a e : α} {x : Option α}
    (h : (if p then some a else x) = some e) : p ∧ a = e ∨ x = some e := by
  split at h
  · exact .inl ⟨‹p›, Option.some.inj h⟩
  · exact .inr h

/-- (one `ite_some_eq` per link of `simpleEscape`; the decoder is evaluated on that link's
letter) -/
theorem quoted_simple {lit : Bool} {st : Style} {c e : Char} (h : simpleEscape st c = some e)
    (f : Nat) (rest acc : Str) :
    quoted lit (f + 1) ('\\' :: e :: rest) st.inS st.inD acc =
      quoted lit f rest st.inS st.inD (c :: acc) := by
  unfold simpleEscape at h
  iterate 11
    rcases ite_some_eq h with ⟨hc, rfl⟩ | h
    · rw [eq_of_beq hc]
      cases st <;> rfl
  cases h

theorem quoted_close (st : Style) (f : Nat) (acc : Str) :
    quoted false (f + 2) [st.quote] st.inS st.inD acc = some acc.reverse := by
  cases st <;> rfl

theorem quoted_hex_digits (lit : Bool) (st : Style) {x : Char} {w : Nat}
    (hx : (x, w) ∈ [('x', 2), ('X', 2), ('u', 4), ('U', 8)]) {dig : Nat → Char} (hr : Reads 16 dig)
    (hw : 0 < w) (c : Char) (hn : c.toNat < 16 ^ w) (f : Nat) (rest acc : Str) :
    quoted lit (f + 1) ('\\' :: x :: (digits 16 dig w c.toNat ++ rest)) st.inS st.inD acc =
      quoted lit f rest st.inS st.inD (c :: acc) := by
  rw [quoted_hex st.inQ hx, unicodeHex_digits hr hw hn, charOfNat_toNat]
  rfl

theorem quoted_oct_digits (lit : Bool) (st : Style) (c : Char) (hn : c.toNat < 256) (f : Nat)
    (rest acc : Str) :
    quoted lit (f + 1) ('\\' :: (oct3 c.toNat ++ rest)) st.inS st.inD acc =
      quoted lit f rest st.inS st.inD (c :: acc) := by
  simp only [oct3, List.cons_append, List.nil_append]
  rw [quoted_oct st.inQ (octLead _ (by omega)), unicodeOct_oct3 hn, charOfNat_toNat]
  rfl

/-! `spellAll`, `spellAllT`, `spellBytes` are one function, `concatSpell`, at three spellings; each
decoder takes one spelled item per unit of fuel. -/

section spelled
variable {σ α : Type} (sp : σ → α → Option Str)

def Spells (P : Char → Prop) (D : Nat → Str → List α → Option (List α)) : Prop :=
  ∀ ⦃s x a⦄, sp s x = some a → (∃ c t, a = c :: t ∧ P c) ∧
    ∀ f rest acc, D (f + 1) (a ++ rest) acc = D f rest (x :: acc)

def concatSpell : List (σ × α) → Option Str
  | [] => some []
  | (s, x) :: rest =>
    match sp s x, concatSpell rest with
    | some a, some b => some (a ++ b)
    | _, _ => none

theorem concatSpell_cons {s : σ} {x : α} {items : List (σ × α)} {body : Str}
    (h : concatSpell sp ((s, x) :: items) = some body) :
    ∃ a b, sp s x = some a ∧ concatSpell sp items = some b ∧ body = a ++ b := by
  simp only [concatSpell] at h
  cases h1 : sp s x with
  | none => simp [h1] at h
  | some a =>
    cases h2 : concatSpell sp items with
    | none => simp [h1, h2] at h
    | some b =>
      simp [h1, h2] at h
      exact ⟨a, b, rfl, rfl, h.symm⟩

theorem concatSpell_head {P : Char → Prop} {D : Nat → Str → List α → Option (List α)}
    (ok : Spells sp P D) {items : List (σ × α)} {body : Str}
    (h : concatSpell sp items = some body) : ∀ c r, body = c :: r → P c := by
  intro c r hbody
  cases items with
  | nil => cases h; cases hbody
  | cons p items =>
    obtain ⟨a, b, h1, _, rfl⟩ := concatSpell_cons sp h
    obtain ⟨⟨c', t, rfl, hc⟩, -⟩ := ok h1
    cases hbody
    exact hc

theorem decode_spelled {P : Char → Prop} {D : Nat → Str → List α → Option (List α)}
    (ok : Spells sp P D)
    {k : Nat} {rest : Str} (hend : ∀ f acc, D (f + k) rest acc = some acc.reverse) :
    ∀ (items : List (σ × α)) (body : Str), concatSpell sp items = some body →
    ∀ (f : Nat) (acc : List α), body.length ≤ f →
    D (f + k) (body ++ rest) acc = some (acc.reverse ++ items.map (·.2)) := by
  intro items
  induction items with
  | nil =>
    intro body h f acc _
    cases h
    simp [hend]
  | cons p items ih =>
    intro body h f acc hf
    obtain ⟨a, b, h1, h2, rfl⟩ := concatSpell_cons sp h
    obtain ⟨⟨c, t, rfl, -⟩, hstep⟩ := ok h1
    rw [List.length_append, List.length_cons] at hf
    obtain ⟨f, rfl⟩ : ∃ g, f = g + 1 := ⟨f - 1, by omega⟩
    rw [Nat.add_right_comm, List.append_assoc, hstep, ih b h2 f _ (by omega)]
    simp

end spelled

/-- a spelling that opens with a backslash opens with no quote -/
theorem backslash_head {t : Str} : ∃ a t', '\\' :: t = a :: t' ∧ a ≠ '\'' ∧ a ≠ '"' :=
  ⟨_, t, rfl, by decide, by decide⟩

theorem spellAll_eq (st : Style) (cs : List (Spelling × Char)) :
    spellAll st cs = concatSpell (spell st) cs := by
  induction cs with
  | nil => rfl
  | cons p cs ih => rw [spellAll, concatSpell, ih]

theorem spell_ok (lit : Bool) (st : Style) :
    Spells (spell st) (fun a => a ≠ '\'' ∧ a ≠ '"') fun f s acc =>
      quoted lit f s st.inS st.inD acc := by
  intro sp c s h
  cases sp <;> simp only [spell] at h
  case verbatim =>
    split at h
    · cases h
    · rename_i hc
      cases h
      simp only [Bool.or_eq_true, beq_iff_eq, not_or] at hc
      exact ⟨⟨c, [], rfl, hc.1.1.1.2, hc.1.1.2⟩, fun _ _ _ =>
        quoted_push st.inQ c hc.1.1.1.1 (absurd · hc.1.1.1.2) (absurd · hc.1.1.2)⟩
  case simple =>
    cases he : simpleEscape st c with
    | none => simp [he] at h
    | some e =>
      simp [he] at h
      subst h
      exact ⟨backslash_head, quoted_simple he⟩
  case u8 =>
    cases h
    refine ⟨backslash_head, fun f rest acc => ?_⟩
    rw [hexN_eq]
    exact quoted_hex_digits lit st (x := 'U') (by simp) reads_hexDigit (by omega) c
      (char_toNat_lt c) ..
  all_goals
    split at h
    case isFalse => cases h
    rename_i hc
    cases h
    refine ⟨backslash_head, fun f rest acc => ?_⟩
  case hexx =>
    rw [hexN_eq]
    exact quoted_hex_digits lit st (x := 'x') (by simp) reads_hexDigit (by omega) c hc ..
  case hexX =>
    rw [hexNUpper_eq]
    exact quoted_hex_digits lit st (x := 'X') (by simp) reads_hexDigitUpper (by omega) c hc ..
  case u4 =>
    rw [hexN_eq]
    exact quoted_hex_digits lit st (x := 'u') (by simp) reads_hexDigit (by omega) c hc ..
  case oct => exact quoted_oct_digits lit st c hc f rest acc

/-! ## the delimiters: what `parseString` hands to which decoder -/

theorem isTriple_first (q a : Char) (r : Str) (h : a ≠ q) : isTriple q (a :: r) = false := by
  simp [isTriple, h]

theorem isTriple_second {q a b : Char} {r : Str} (h : b ≠ q) :
    isTriple q (a :: b :: r) = false := by
  simp [isTriple, h]

theorem not_triple_of_head {q : Char} {body : Str} (hh : ∀ a r, body = a :: r → a ≠ q) :
    isTriple q (q :: (body ++ [q])) = false := by
  cases body with
  | nil => simp [isTriple]
  | cons a r => exact isTriple_second (hh a r rfl)

theorem isTriple_triple {q : Char} (body : Str) :
    isTriple q (q :: q :: q :: (body ++ [q, q, q])) = true := by
  have h : (q :: q :: q :: (body ++ [q, q, q])) = (q :: q :: q :: body) ++ [q, q, q] := by simp
  unfold isTriple
  rw [h, List.drop_left' (by simp)]
  simp

/-- what `parseString` takes for the body of a triple-quoted text -/
def tripleBody (t : Str) : Str := (t.drop 3).take (t.length - 6)

theorem triple_body (q : Char) (body : Str) :
    ((q :: q :: q :: (body ++ [q, q, q])).drop 3).take
      ((q :: q :: q :: (body ++ [q, q, q])).length - 6) = body := by
  simp

theorem parseString_quote (st : Style) (rest : Str) :
    parseString (st.quote :: rest) =
      if isTriple st.quote (st.quote :: rest) then
        quoted true ((tripleBody (st.quote :: rest)).length + 1) (tripleBody (st.quote :: rest))
          st.inS st.inD []
      else quoted false (rest.length + 1) rest st.inS st.inD [] := by
  cases st <;> simp [parseString, tripleBody, Style.quote, Style.inS, Style.inD,
    isTriple_first '"' '\'' rest (by decide), isTriple_first '\'' '"' rest (by decide)]

theorem parseString_raw_quote (m : Char) (hm : m = 'r' ∨ m = 'R') (st : Style) (rest : Str) :
    parseString (m :: st.quote :: rest) =
      if isTriple st.quote (st.quote :: rest) then some (tripleBody (st.quote :: rest))
      else raw (rest.length + 1) rest st.inS st.inD [] := by
  have hr : (m == 'r' || m == 'R') = true := by rcases hm with rfl | rfl <;> rfl
  cases st <;> simp [parseString, hr, tripleBody, raw, Style.quote, Style.inS, Style.inD,
    isTriple_first '"' '\'' rest (by decide), isTriple_first '\'' '"' rest (by decide)]

/-- Round trip, one-line literals.  Partial: `spell` offers no verbatim quote and no escaped quote
of the other kind (the latter is D5a). -/
theorem string_roundtrip_partial (st : Style) (cs : List (Spelling × Char)) (body : Str)
    (h : spellAll st cs = some body) :
    parseString (st.quote :: body ++ [st.quote]) = some (cs.map (·.2)) := by
  rw [spellAll_eq] at h
  have hh : ∀ a r, body = a :: r → a ≠ st.quote := fun a r hbody =>
    st.ne_quote (concatSpell_head (spell st) (spell_ok false st) h a r hbody)
  rw [List.cons_append, parseString_quote, if_neg (by simp [not_triple_of_head hh]),
    List.length_append]
  exact decode_spelled (spell st) (spell_ok false st) (quoted_close st) cs body h body.length []
    (Nat.le_refl _)

theorem one_spelled (st : Style) (sp : Spelling) {c : Char} {s : Str} (h : spell st sp c = some s) :
    parseString (st.quote :: s ++ [st.quote]) = some [c] :=
  string_roundtrip_partial st [(sp, c)] s (by simp [spellAll, h])

/-- each escape form, alone in a one-line literal and with its digits as `hexN` / `oct3` write them
(lower case), denotes the code point written: the round trip at one character -/
theorem escape_x_denotation (st : Style) (n : Nat) (hn : n < 256) :
    parseString (st.quote :: '\\' :: 'x' :: hexN 2 n ++ [st.quote]) = some [Char.ofNat n] := by
  exact one_spelled st .hexx (by simp [spell, toNat_ofNat n (isValidChar_of_lt n hn), hn])

theorem escape_oct_denotation (st : Style) (n : Nat) (hn : n < 256) :
    parseString (st.quote :: '\\' :: oct3 n ++ [st.quote]) = some [Char.ofNat n] := by
  exact one_spelled st .oct (by simp [spell, toNat_ofNat n (isValidChar_of_lt n hn), hn])

theorem escape_u_denotation (st : Style) (n : Nat) (hn : n < 65536) (hv : n.isValidChar) :
    parseString (st.quote :: '\\' :: 'u' :: hexN 4 n ++ [st.quote]) = some [Char.ofNat n] := by
  exact one_spelled st .u4 (by simp [spell, toNat_ofNat n hv, hn])

theorem escape_U_denotation (st : Style) (n : Nat) (hn : n < 4294967296) (hv : n.isValidChar) :
    parseString (st.quote :: '\\' :: 'U' :: hexN 8 n ++ [st.quote]) = some [Char.ofNat n] := by
  exact one_spelled st .u8 (by simp [spell, toNat_ofNat n hv])

/-- the one-line literal that consists of a single `\U` (or `\u`) escape naming no valid code point (a
surrogate, a value beyond U+10FFFF), digits in lower case, is rejected -/
theorem invalid_codepoint_rejected (st : Style) (n : Nat) (hn : n < 4294967296)
    (hv : ¬ n.isValidChar) :
    parseString (st.quote :: '\\' :: 'U' :: hexN 8 n ++ [st.quote]) = none ∧
    (n < 65536 → parseString (st.quote :: '\\' :: 'u' :: hexN 4 n ++ [st.quote]) = none) := by
  have key (x : Char) (w : Nat) (hx : (x, w) ∈ [('x', 2), ('X', 2), ('u', 4), ('U', 8)])
      (hw : 0 < w) (hn : n < 16 ^ w) :
      parseString (st.quote :: '\\' :: x :: hexN w n ++ [st.quote]) = none := by
    rw [List.cons_append, parseString_quote,
      if_neg (by simp [isTriple_second (show '\\' ≠ st.quote by cases st <;> decide)]),
      List.cons_append, List.cons_append, quoted_hex st.inQ hx, hexN_eq,
      unicodeHex_digits reads_hexDigit hw hn, charOfNat_invalid n hv]
    rfl
  exact ⟨key 'U' 8 (by simp) (by omega) hn, fun hn4 => key 'u' 4 (by simp) (by omega) hn4⟩

/-- the raw scanner pairs every backslash with the character after it: `true` when the last
character is an unpaired backslash (which then pairs with the closing quote) -/
def rawDangling : Str → Bool
  | [] => false
  | c :: r =>
    if c == '\\' then
      match r with
      | [] => true
      | _ :: r2 => rawDangling r2
    else rawDangling r

theorem rawDangling_no_backslash (body : Str) (h : ∀ c ∈ body, c ≠ '\\') :
    rawDangling body = false := by
  induction body with
  | nil => rfl
  | cons c r ih =>
    have hc := h c (by simp)
    have ih' := ih (fun x hx => h x (by simp [hx]))
    unfold rawDangling
    simp [hc, ih']

theorem raw_push {f : Nat} {inS inD : Bool} (hq : (inS || inD) = true) {acc : Str} (c : Char)
    {rest : Str} (h1 : c ≠ '\\') (h2 : c ≠ '\'' ∧ c ≠ '"') :
    raw (f + 1) (c :: rest) inS inD acc = raw f rest inS inD (c :: acc) := by
  rw [raw.eq_def]
  simp [hq, h1, h2]

theorem raw_backslash {f : Nat} {inS inD : Bool} (hq : (inS || inD) = true) {acc : Str} (c2 : Char)
    {r2 : Str} (h2 : c2 ≠ '\'' ∧ c2 ≠ '"') :
    raw (f + 1) ('\\' :: c2 :: r2) inS inD acc = raw f r2 inS inD (c2 :: '\\' :: acc) := by
  simp [raw, hq, h2]

theorem raw_run (st : Style) (body : Str) (hb : ∀ c ∈ body, c ≠ '\'' ∧ c ≠ '"') :
    ∀ {f : Nat} {acc : Str}, body.length + 2 ≤ f →
    raw f (body ++ [st.quote]) st.inS st.inD acc =
      some (acc.reverse ++ (if rawDangling body then body.dropLast ++ [st.quote] else body)) := by
  induction body using rawDangling.induct with
  | case1 =>
    intro f acc hf
    obtain ⟨f, rfl⟩ : ∃ g, f = g + 2 := ⟨f - 2, by simp at hf; omega⟩
    cases st <;> simp [raw, rawDangling, Style.inS, Style.inD, Style.quote]
  | case2 c hc =>
    intro f acc hf
    obtain ⟨f, rfl⟩ : ∃ g, f = g + 2 := ⟨f - 2, by simp at hf; omega⟩
    rw [eq_of_beq hc]
    cases st <;> simp [raw, rawDangling, Style.inS, Style.inD, Style.quote]
  | case3 c hc c2 r2 ih =>
    intro f acc hf
    obtain ⟨f, rfl⟩ : ∃ g, f = g + 1 := ⟨f - 1, by simp at hf; omega⟩
    rw [eq_of_beq hc, List.cons_append, List.cons_append, raw_backslash st.inQ c2 (hb c2 (by simp)),
      ih (fun x hx => hb x (by simp [hx])) (by simp at hf; omega)]
    have hd : rawDangling ('\\' :: c2 :: r2) = rawDangling r2 := by simp [rawDangling]
    rw [hd]
    split
    · have : r2 ≠ [] := by rintro rfl; contradiction
      simp [List.dropLast_cons_of_ne_nil this]
    · simp
  | case4 c r hc ih =>
    intro f acc hf
    obtain ⟨f, rfl⟩ : ∃ g, f = g + 1 := ⟨f - 1, by simp at hf; omega⟩
    rw [List.cons_append, raw_push st.inQ c (by simpa using hc) (hb c (by simp)),
      ih (fun x hx => hb x (by simp [hx])) (by simp at hf; omega)]
    have hd : rawDangling (c :: r) = rawDangling r := by
      cases r <;> simp [rawDangling, hc]
    rw [hd]
    split
    · have : r ≠ [] := by rintro rfl; contradiction
      simp [List.dropLast_cons_of_ne_nil this]
    · simp

theorem parseString_raw (m : Char) (hm : m = 'r' ∨ m = 'R') (st : Style) (body : Str)
    (hb : ∀ c ∈ body, c ≠ '\'' ∧ c ≠ '"') :
    parseString (m :: st.quote :: body ++ [st.quote]) =
      some (if rawDangling body then body.dropLast ++ [st.quote] else body) := by
  have hh : ∀ a r, body = a :: r → a ≠ st.quote := fun a r hbody =>
    st.ne_quote (hb a (by simp [hbody]))
  rw [List.cons_append, List.cons_append, parseString_raw_quote m hm,
    if_neg (by simp [not_triple_of_head hh]), raw_run st body hb (by simp)]
  simp

theorem quote_style (q : Char) (hq : q = '\'' ∨ q = '"') : ∃ st : Style, q = st.quote := by
  rcases hq with rfl | rfl
  · exact ⟨.single, rfl⟩
  · exact ⟨.double, rfl⟩

/-- raw literals perform no escape processing.  Partial: quote-free bodies that do not end in an
unpaired backslash -/
theorem raw_no_escape_processing_partial2 (q : Char) (hq : q = '\'' ∨ q = '"') (body : Str)
    (hb : ∀ c ∈ body, c ≠ '\'' ∧ c ≠ '"') (hd : rawDangling body = false) :
    parseString ('r' :: q :: body ++ [q]) = some body ∧
    parseString ('R' :: q :: body ++ [q]) = some body := by
  obtain ⟨st, rfl⟩ := quote_style q hq
  rw [parseString_raw 'r' (Or.inl rfl) st body hb, parseString_raw 'R' (Or.inr rfl) st body hb]
  simp [hd]

/-- D5b, in general: a quote-free raw body ending in an unpaired backslash loses that backslash
and gains the closing quote -/
theorem raw_dangling_backslash (q : Char) (hq : q = '\'' ∨ q = '"') (body : Str)
    (hb : ∀ c ∈ body, c ≠ '\'' ∧ c ≠ '"') (hd : rawDangling body = true) :
    parseString ('r' :: q :: body ++ [q]) = some (body.dropLast ++ [q]) ∧
    parseString ('R' :: q :: body ++ [q]) = some (body.dropLast ++ [q]) := by
  obtain ⟨st, rfl⟩ := quote_style q hq
  rw [parseString_raw 'r' (Or.inl rfl) st body hb, parseString_raw 'R' (Or.inr rfl) st body hb]
  simp [hd]

/-- the hypothesis on the last character is needed: `r'\'` (one backslash) decodes to a single
quote -/
theorem raw_no_escape_processing_partial_false :
    ¬ (∀ (q : Char) (_ : q = '\'' ∨ q = '"') (body : Str)
    (_ : ∀ c ∈ body, c ≠ '\'' ∧ c ≠ '"'),
    parseString ('r' :: q :: body ++ [q]) = some body ∧
    parseString ('R' :: q :: body ++ [q]) = some body) := by
  intro h
  have := (h '\'' (Or.inl rfl) ['\\'] (by decide)).1
  revert this
  decide +kernel

/-! The two open defects on their witnesses; the C12 check meets the same texts on the
implementation on every run (its `KNOWN-FINDING` lines D5a, D5b). -/

/-- D5a: an escaped quote of the other kind keeps its backslash -/
theorem other_quote_escape_counterexample :
    parseString "'a\\\"b'".toList = some "a\\\"b".toList ∧
    parseString "\"a\\'b\"".toList = some "a\\'b".toList := by
  decide +kernel

/-- D5b: a raw literal ending in a backslash loses it and gains the quote -/
theorem raw_backslash_quote_counterexample :
    parseString "r\"abc\\\"".toList = some "abc\"".toList := by
  decide +kernel

/-- inside a triple-quoted literal both quote characters and line breaks may also be written
verbatim -/
def spellT (st : Style) (sp : Spelling) (c : Char) : Option Str :=
  match sp with
  | .verbatim => if c == '\\' then none else some [c]
  | sp => spell st sp c

def spellAllT (st : Style) : List (Spelling × Char) → Option Str
  | [] => some []
  | (sp, c) :: rest =>
    match spellT st sp c, spellAllT st rest with
    | some a, some b => some (a ++ b)
    | _, _ => none

def Style.triple (st : Style) : Str := [st.quote, st.quote, st.quote]

theorem spellT_eq (st : Style) {sp : Spelling} (c : Char) (h : sp ≠ .verbatim) :
    spellT st sp c = spell st sp c := by
  cases sp <;> first | rfl | contradiction

theorem spellAllT_eq (st : Style) (cs : List (Spelling × Char)) :
    spellAllT st cs = concatSpell (spellT st) cs := by
  induction cs with
  | nil => rfl
  | cons p cs ih => rw [spellAllT, concatSpell, ih]

theorem spellT_ok (st : Style) :
    Spells (spellT st) (fun _ => True) fun f s acc => quoted true f s st.inS st.inD acc := by
  intro sp c s h
  by_cases hv : sp = .verbatim
  · subst hv
    simp only [spellT] at h
    split at h
    · cases h
    · rename_i hc
      cases h
      simp only [beq_iff_eq] at hc
      exact ⟨⟨c, [], rfl, trivial⟩, fun _ _ _ =>
        quoted_push st.inQ c hc (fun _ => by simp) (fun _ => by simp)⟩
  · obtain ⟨⟨a, t, rfl, -⟩, hstep⟩ := spell_ok true st (spellT_eq st c hv ▸ h)
    exact ⟨⟨a, t, rfl, trivial⟩, hstep⟩

/-- Round trip, triple-quoted literals (an escaped quote of the other kind excluded, D5a).  That the
lexer hands such a text over as one token is not part of it: a body containing the closing
delimiter is cut there. -/
theorem triple_quoted_roundtrip_partial (st : Style) (cs : List (Spelling × Char)) (body : Str)
    (h : spellAllT st cs = some body) :
    parseString (st.triple ++ body ++ st.triple) = some (cs.map (·.2)) := by
  have := decode_spelled (spellT st) (spellT_ok st) (k := 1) (rest := [])
    (fun f acc => by simp [quoted]) cs body
    (spellAllT_eq st cs ▸ h) body.length [] (Nat.le_refl _)
  simp only [List.append_nil, List.reverse_nil, List.nil_append] at this
  simp only [Style.triple, List.cons_append, List.nil_append]
  rw [parseString_quote, if_pos (isTriple_triple body), tripleBody, triple_body, this]

/-- a raw triple-quoted literal denotes its body verbatim, for every body -/
theorem raw_triple_verbatim (m : Char) (hm : m = 'r' ∨ m = 'R') (st : Style) (body : Str) :
    parseString (m :: st.triple ++ body ++ st.triple) = some body := by
  simp only [Style.triple, List.cons_append, List.nil_append]
  rw [parseString_raw_quote m hm, if_pos (isTriple_triple body), tripleBody, triple_body]

/-- quote characters inside a triple-quoted body, next to the delimiters included, are literal (the
witnesses of D5c, DESIGN.md 0.4) -/
theorem triple_quote_inner_quotes :
    parseString "'''a'b'''".toList = some "a'b".toList ∧
    parseString "\"\"\"a\"\"b\"\"\"".toList = some "a\"\"b".toList ∧
    parseString "\"\"\"\"a\"\"\"".toList = some "\"a".toList := by
  decide +kernel

inductive BSpelling where
  | verbatim   -- an ASCII character other than backslash, quotes and line breaks
  | simple     -- \a \b \f \n \r \t \v \\ \? \` \' \"
  | hexx | hexX | oct
deriving Repr, DecidableEq

def simpleEscapeByte (b : UInt8) : Option Char :=
  if b == 7 then some 'a' else if b == 8 then some 'b' else if b == 12 then some 'f'
  else if b == 10 then some 'n' else if b == 13 then some 'r' else if b == 9 then some 't'
  else if b == 11 then some 'v' else if b == 92 then some '\\' else if b == 63 then some '?'
  else if b == 96 then some '`' else if b == 39 then some '\'' else if b == 34 then some '"'
  else none

def spellByte (sp : BSpelling) (b : UInt8) : Option Str :=
  match sp with
  | .verbatim =>
    if b.toNat < 128 && b != 92 && b != 39 && b != 34 && b != 10 && b != 13 then
      some [Char.ofNat b.toNat]
    else none
  | .simple => (simpleEscapeByte b).map (fun e => ['\\', e])
  | .hexx => some ('\\' :: 'x' :: hexN 2 b.toNat)
  | .hexX => some ('\\' :: 'X' :: hexNUpper 2 b.toNat)
  | .oct => some ('\\' :: oct3 b.toNat)

def spellBytes : List (BSpelling × UInt8) → Option Str
  | [] => some []
  | (sp, b) :: rest =>
    match spellByte sp b, spellBytes rest with
    | some a, some r => some (a ++ r)
    | _, _ => none

/-- the delimiters of a bytes literal: single or triple, either quote -/
def delims : List Str := [['\''], ['"'], ['\'', '\'', '\''], ['"', '"', '"']]

theorem spellBytes_eq (bs : List (BSpelling × UInt8)) :
    spellBytes bs = concatSpell spellByte bs := by
  induction bs with
  | nil => rfl
  | cons p bs ih => rw [spellBytes, concatSpell, ih]

theorem ascii_ne (b : UInt8) (h : b.toNat < 128) (c : Char) (hc : b ≠ c.toNat.toUInt8) :
    Char.ofNat b.toNat ≠ c := by
  intro e
  apply hc
  rw [← e, toNat_ofNat _ (isValidChar_of_lt _ (by omega))]
  exact UInt8.ofNat_toNat.symm

theorem bytes_verbatim (b : UInt8) (h1 : b.toNat < 128) (h2 : b ≠ 92) (f : Nat) (rest : Str)
    (acc : List UInt8) :
    bytesBody (f + 1) (Char.ofNat b.toNat :: rest) acc = bytesBody f rest (b :: acc) := by
  have hn := toNat_ofNat b.toNat (isValidChar_of_lt _ (by omega))
  have he : utf8Encode (Char.ofNat b.toNat) = [b] := by
    simp [utf8Encode, hn, h1]
  simp [bytesBody, ascii_ne b h1 '\\' h2, he]

theorem bytes_simple {b : UInt8} {e : Char} (h : simpleEscapeByte b = some e) (f : Nat)
    (rest : Str) (acc : List UInt8) :
    bytesBody (f + 1) ('\\' :: e :: rest) acc = bytesBody f rest (b :: acc) := by
  unfold simpleEscapeByte at h
  iterate 12
    rcases ite_some_eq h with ⟨hc, rfl⟩ | h
    · rw [eq_of_beq hc]
      rfl
  cases h

theorem bytes_hex {x : Char} (hx : x = 'x' ∨ x = 'X') {dig : Nat → Char} (hr : Reads 16 dig)
    (b : UInt8) (f : Nat) (rest : Str) (acc : List UInt8) :
    bytesBody (f + 1) ('\\' :: x :: (digits 16 dig 2 b.toNat ++ rest)) acc =
      bytesBody f rest (b :: acc) := by
  have := parseRadix_digits hr (w := 2) (by omega) (show b.toNat < 16 ^ 2 from b.toNat_lt)
  simp only [digits, List.nil_append, List.cons_append] at this ⊢
  rcases hx with rfl | rfl <;> simp [bytesBody, this]

theorem bytes_oct (b : UInt8) (f : Nat) (rest : Str) (acc : List UInt8) :
    bytesBody (f + 1) ('\\' :: (oct3 b.toNat ++ rest)) acc = bytesBody f rest (b :: acc) := by
  have hn : b.toNat ≤ 255 := Nat.le_of_lt_succ b.toNat_lt
  have hp := parseRadix_digits reads_octDigit (w := 3) (by omega) (show b.toNat < 8 ^ 3 by omega)
  rw [← oct3_eq] at hp
  simp only [oct3, List.cons_append, List.nil_append] at hp ⊢
  have hl := octLead (b.toNat / 64 % 8) (by omega)
  simp only [List.mem_cons, List.not_mem_nil, or_false] at hl
  rcases hl with hc | hc | hc | hc
  all_goals
    rw [hc] at hp ⊢
    simp [bytesBody, hp, hn]

theorem spellByte_ok : Spells spellByte (fun c => c ≠ '\'' ∧ c ≠ '"') bytesBody := by
  intro sp b s h
  cases sp <;> simp only [spellByte] at h
  case verbatim =>
    split at h
    · rename_i hc
      cases h
      simp only [Bool.and_eq_true, decide_eq_true_eq, bne_iff_ne, ne_eq] at hc
      have hlt := hc.1.1.1.1.1
      exact ⟨⟨_, [], rfl, ascii_ne b hlt '\'' hc.1.1.1.2, ascii_ne b hlt '"' hc.1.1.2⟩,
        bytes_verbatim b hlt hc.1.1.1.1.2⟩
    · cases h
  case simple =>
    cases he : simpleEscapeByte b with
    | none => simp [he] at h
    | some e =>
      simp [he] at h
      subst h
      exact ⟨backslash_head, bytes_simple he⟩
  all_goals
    cases h
    refine ⟨backslash_head, fun f rest acc => ?_⟩
  case hexx =>
    rw [hexN_eq]
    exact bytes_hex (.inl rfl) reads_hexDigit b f rest acc
  case hexX =>
    rw [hexNUpper_eq]
    exact bytes_hex (.inr rfl) reads_hexDigitUpper b f rest acc
  case oct => exact bytes_oct b f rest acc

/-- the delimiter-stripping part of `visit_Bytes` -/
def stripQuotes (text : Str) : Str :=
  let q : Nat :=
    if text.length ≥ 6 && (text.take 3 == ['"', '"', '"'] || text.take 3 == ['\'', '\'', '\''])
    then 3 else 1
  (text.drop q).take (text.length - 2 * q)

theorem stripQuotes_delims (d : Str) (hd : d ∈ delims) (body : Str)
    (hh : ∀ c r, body = c :: r → c ≠ '\'' ∧ c ≠ '"') : stripQuotes (d ++ (body ++ d)) = body := by
  simp only [delims, List.mem_cons, List.not_mem_nil, or_false] at hd
  rcases hd with rfl | rfl | rfl | rfl
  case inr.inr.inl | inr.inr.inr => simp [stripQuotes]
  all_goals
    cases body with
    | nil => simp [stripQuotes]
    | cons c r => simp [stripQuotes, hh c r rfl]

theorem parseBytes_cooked (d : Str) (hd : d ∈ delims) (t : Str) :
    parseBytes ('b' :: (d ++ t)) =
      bytesBody ((stripQuotes (d ++ t)).length + 1) (stripQuotes (d ++ t)) [] := by
  simp only [delims, List.mem_cons, List.not_mem_nil, or_false] at hd
  -- `stripQuotes` is that part of `parseBytes`, word for word
  rcases hd with rfl | rfl | rfl | rfl <;> rfl

theorem parseBytes_raw (t : Str) :
    parseBytes ('b' :: 'r' :: t) = some (strToBytes (stripQuotes t)) := rfl

/-- Round trip, bytes literals, in all four quoting styles -/
theorem bytes_roundtrip (d : Str) (hd : d ∈ delims) (bs : List (BSpelling × UInt8)) (body : Str)
    (h : spellBytes bs = some body) :
    parseBytes ('b' :: d ++ body ++ d) = some (bs.map (·.2)) := by
  have := decode_spelled spellByte spellByte_ok (k := 1) (rest := [])
    (fun f acc => by simp [bytesBody]) bs body (spellBytes_eq bs ▸ h) body.length [] (Nat.le_refl _)
  simp only [List.append_nil, List.reverse_nil, List.nil_append] at this
  rw [List.cons_append, List.cons_append, List.append_assoc, parseBytes_cooked d hd,
    stripQuotes_delims d hd body (concatSpell_head spellByte spellByte_ok (spellBytes_eq bs ▸ h)),
    this]

/-- raw bytes literals with a quote-free body: the UTF-8 encoding of the body, verbatim -/
theorem raw_bytes_verbatim (d : Str) (hd : d ∈ delims) (body : Str)
    (hb : ∀ c ∈ body, c ≠ '\'' ∧ c ≠ '"') :
    parseBytes ('b' :: 'r' :: d ++ body ++ d) = some (strToBytes body) := by
  rw [List.cons_append, List.cons_append, List.cons_append, List.cons_append, List.append_assoc,
    parseBytes_raw, stripQuotes_delims d hd body (fun c r hcr => hb c (by simp [hcr]))]

/-- `\u` / `\U` are not escapes of bytes literals -/
theorem bytes_reject_unicode_escape (rest : Str) (acc : List UInt8) (fuel : Nat) :
    bytesBody (fuel + 1) ('\\' :: 'u' :: rest) acc = none ∧
    bytesBody (fuel + 1) ('\\' :: 'U' :: rest) acc = none := by
  constructor <;> simp [bytesBody]

end Cel.Props.C12
