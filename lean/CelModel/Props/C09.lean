import CelModel.Eval
import CelModel.Lemmas.CmpLemmas
import CelModel.Lemmas.F64Bits
import CelModel.Lemmas.F64Lemmas
import CelModel.Lemmas.NumLemmas
/-!
# C09 — equality and ordering are coherent and numerically exact across types

`Value.eq` / `Value.partialCmp` mirror `impl PartialEq / PartialOrd for Value` clause for clause.
The specification is `numKey`: the exact value of a number scaled by 2^1074 (every finite double
is an integer multiple of 2^-1074), or ±∞; NaN has no key.  `partialCmp` is the comparison of
order keys (`partialCmp_eq_keyCmp`), and the order laws are those of the keys.
-/
namespace Cel.Props.C09

/-- the number a numeric value denotes, scaled by 2^1074; `none` for NaN and non-numbers -/
def numKey : Value → Option F64.EInt
  | .int i => some (F64.keyI i)
  | .uint n => some (F64.keyI n)
  | .dbl b => F64.keyD (F64.decode b)
  | _ => none

/-- (as `C08.isNum`) -/
def isNum : Value → Bool
  | .int _ => true | .uint _ => true | .dbl _ => true | _ => false

/-- int and uint values the implementation can hold -/
def WF : Value → Prop
  | .int i => inI64 i = true
  | .uint n => inU64 n = true
  | _ => True

/-- so the scaled key of a double is an integer -/
theorem decode_exponent_ge (b : UInt64) (neg : Bool) (m : Nat) (e : Int)
    (h : F64.decode b = .fin neg m e) : -1074 ≤ e :=
  (F64.decodeNat_fin_bounds h).2

/-- the implementation-shaped int/double comparison is the exact comparison of the numbers -/
theorem cmpIntD_matches_key (i : Int) (b : UInt64) :
    F64.cmpIntD i (F64.decode b) = (F64.keyD (F64.decode b)).map (fun k => F64.EInt.cmp (F64.keyI i) k) := by
  cases h : F64.decode b with
  | nan => rfl
  | inf neg => cases neg <;> rfl
  | fin neg m e =>
    rw [F64.cmpIntD_fin i neg m e (decode_exponent_ge b neg m e h)]
    rfl

theorem cmpIntD_rev {i : Int} {b : UInt64} : (F64.cmpIntD i (F64.decode b)).map Ordering.rev =
    (F64.keyD (F64.decode b)).map (fun k => F64.EInt.cmp k (F64.keyI i)) := by
  rw [cmpIntD_matches_key]
  cases F64.keyD (F64.decode b) with
  | none => rfl
  | some k => exact congrArg some (F64.EInt.cmp_swap (F64.keyI i) k).symm

/-- numbers are ordered by their exact value, the other orderable kinds by themselves; `none` for
NaN and for the kinds without an order -/
inductive OKey where
  | num (k : F64.EInt) | str (s : Str) | bool (b : Bool) | null | dur (n : Int) | ts (n : Int)

def ordKey : Value → Option OKey
  | .int i => some (.num (F64.keyI i))
  | .uint n => some (.num (F64.keyI n))
  | .dbl b => (F64.keyD (F64.decode b)).map .num
  | .str s => some (.str s)
  | .bool b => some (.bool b)
  | .null => some .null
  | .dur n => some (.dur n)
  | .ts n _ => some (.ts n)
  | _ => none

theorem ordKey_dbl (b : UInt64) : ordKey (.dbl b) = (F64.keyD (F64.decode b)).map .num := rfl

theorem ordKey_of_numKey {a : Value} {k : F64.EInt} (h : numKey a = some k) :
    ordKey a = some (.num k) := by
  cases a <;> simp only [numKey, reduceCtorEq, Option.some.injEq] at h <;>
    first
    | (subst h; rfl)
    | (simp only [ordKey, h]; rfl)

def OKey.cmp : OKey → OKey → Option Ordering
  | .num a, .num b => some (F64.EInt.cmp a b)
  | .str a, .str b => some (cmpStr a b)
  | .bool a, .bool b => some (cmpBool a b)
  | .null, .null => some .eq
  | .dur a, .dur b => some (compare a b)
  | .ts a, .ts b => some (compare a b)
  | _, _ => none

def keyCmp : Option OKey → Option OKey → Option Ordering
  | some x, some y => OKey.cmp x y
  | _, _ => none

theorem keyI_cmp (a b : Int) : F64.EInt.cmp (F64.keyI a) (F64.keyI b) = compare a b := by
  simp only [F64.keyI, F64.EInt.cmp_fin_fin]
  exact F64.icmp_mul_right F64.twoScale_pos

theorem pc_uint_uint (a b : Int) :
    Value.partialCmp (.uint a) (.uint b) = some (F64.EInt.cmp (F64.keyI a) (F64.keyI b)) := by
  rw [keyI_cmp]; rfl
theorem pc_int_uint {a b : Int} (hb : inU64 b = true) :
    Value.partialCmp (.int a) (.uint b) = some (F64.EInt.cmp (F64.keyI a) (F64.keyI b)) := by
  rw [keyI_cmp]
  rw [inU64_iff] at hb
  simp only [Value.partialCmp, cmpIntUint]
  split
  · rw [Int.compare_eq_lt.2 (by omega)]
  · rfl
theorem pc_uint_int {a b : Int} (hb : inI64 b = true) :
    Value.partialCmp (.uint a) (.int b) = some (F64.EInt.cmp (F64.keyI a) (F64.keyI b)) := by
  rw [keyI_cmp]
  rw [inI64_iff] at hb
  simp only [Value.partialCmp, cmpUintInt]
  have h64 : i64Max = 9223372036854775807 := rfl
  by_cases h : a > i64Max
  · rw [if_pos h, Int.compare_eq_gt.2 (by omega)]
  · rw [if_neg h]
theorem pc_dbl_dbl (a b : UInt64) :
    Value.partialCmp (.dbl a) (.dbl b) =
      match F64.keyD (F64.decode a), F64.keyD (F64.decode b) with
      | some x, some y => some (F64.EInt.cmp x y)
      | _, _ => none := rfl

theorem keyCmp_num_left {k : F64.EInt} {x : Option F64.EInt} :
    keyCmp (some (.num k)) (x.map .num) = x.map (F64.EInt.cmp k) := by
  cases x <;> rfl
theorem keyCmp_num_right {x : Option F64.EInt} {k : F64.EInt} :
    keyCmp (x.map .num) (some (.num k)) = x.map (fun j => F64.EInt.cmp j k) := by
  cases x <;> rfl

theorem partialCmp_eq_keyCmp (a b : Value) (hb : WF b) :
    Value.partialCmp a b = keyCmp (ordKey a) (ordKey b) := by
  -- outside the numbers both sides compute to the same thing
  cases a <;> cases b <;> try exact rfl
  case int.int | uint.uint => exact congrArg some (keyI_cmp _ _).symm
  case int.uint => exact pc_int_uint hb
  case uint.int => exact pc_uint_int hb
  case int.dbl | uint.dbl => exact (cmpIntD_matches_key _ _).trans keyCmp_num_left.symm
  case dbl.int | dbl.uint => exact cmpIntD_rev.trans keyCmp_num_right.symm
  case dbl.dbl =>
    rw [pc_dbl_dbl, ordKey_dbl, ordKey_dbl]
    cases F64.keyD (F64.decode _) <;> cases F64.keyD (F64.decode _) <;> rfl
  -- left over: a double against a non-number, where a NaN has no key at all
  all_goals
    rw [ordKey_dbl]
    cases F64.keyD (F64.decode _) <;> rfl

theorem OKey.cmp_swap (x y : OKey) : OKey.cmp y x = (OKey.cmp x y).map Ordering.rev := by
  cases x <;> cases y <;> first | rfl | exact congrArg some (cmp_swap_rev _ _)

theorem keyCmp_swap {x y : Option OKey} : keyCmp y x = (keyCmp x y).map Ordering.rev := by
  cases x <;> cases y <;> first | rfl | exact OKey.cmp_swap _ _

theorem OKey.cmp_trans (x y z : OKey) (o : Ordering) (h1 : OKey.cmp x y = some o)
    (h2 : OKey.cmp y z = some o) : OKey.cmp x z = some o := by
  -- different kinds do not compare; left are the six kinds against themselves, `null` last
  cases x <;> cases y <;> simp only [OKey.cmp, reduceCtorEq, Option.some.injEq] at h1 <;>
    cases z <;> simp only [OKey.cmp, reduceCtorEq, Option.some.injEq] at h2 <;>
    first
    | exact congrArg some (cmp_trans_of_eq h1 h2)
    | exact congrArg some h1

theorem keyCmp_trans {x y z : Option OKey} {o : Ordering} (h1 : keyCmp x y = some o)
    (h2 : keyCmp y z = some o) : keyCmp x z = some o := by
  cases x <;> cases y <;> simp only [keyCmp, reduceCtorEq] at h1 <;>
    cases z <;> simp only [keyCmp, reduceCtorEq] at h2
  exact OKey.cmp_trans _ _ _ _ h1 h2

theorem OKey.eq_of_cmp_eq {x y : OKey} (h : OKey.cmp x y = some .eq) : x = y := by
  cases x <;> cases y <;> simp only [OKey.cmp, reduceCtorEq, Option.some.injEq] at h <;>
    first
    | rfl
    | exact congrArg _ (Std.LawfulEqCmp.eq_of_compare h)

theorem eq_of_keyCmp_eq {x y : Option OKey} (h : keyCmp x y = some .eq) : x = y := by
  cases x <;> cases y <;> simp only [keyCmp, reduceCtorEq] at h
  exact congrArg some (OKey.eq_of_cmp_eq h)

/-- `a < b` iff `b > a` -/
theorem cmp_swap (a b : Value) (ha : WF a) (hb : WF b) :
    Value.partialCmp b a = (Value.partialCmp a b).map Ordering.rev := by
  rw [partialCmp_eq_keyCmp b a ha, partialCmp_eq_keyCmp a b hb]
  exact keyCmp_swap

/-- the order is transitive, across numeric kinds too -/
theorem cmp_trans (a b c : Value) (ha : WF a) (hb : WF b) (hc : WF c) (o : Ordering)
    (h1 : Value.partialCmp a b = some o) (h2 : Value.partialCmp b c = some o) :
    Value.partialCmp a c = some o := by
  have _ := ha  -- not needed
  rw [partialCmp_eq_keyCmp _ _ hb] at h1
  rw [partialCmp_eq_keyCmp _ _ hc] at h2
  rw [partialCmp_eq_keyCmp _ _ hc]
  exact keyCmp_trans h1 h2

/-- values that compare `eq` have the same key, so they compare alike with everything -/
theorem cmp_congr {a b c : Value} (ha : WF a) (hb : WF b) (hc : WF c)
    (h : Value.partialCmp a b = some .eq) :
    Value.partialCmp a c = Value.partialCmp b c ∧ Value.partialCmp c a = Value.partialCmp c b := by
  rw [partialCmp_eq_keyCmp _ _ hb] at h
  rw [partialCmp_eq_keyCmp _ _ hc, partialCmp_eq_keyCmp _ _ ha, eq_of_keyCmp_eq h,
    partialCmp_eq_keyCmp _ _ hc, partialCmp_eq_keyCmp _ _ hb]
  exact ⟨rfl, rfl⟩

theorem beq_map_rev {x : Option Ordering} :
    (x == some .eq) = (x.map Ordering.rev == some .eq) := by
  cases x with
  | none => rfl
  | some c => cases c <;> rfl

theorem beq_intUint {a b : Int} (hb : inU64 b = true) : (a == b) = (cmpIntUint a b == .eq) := by
  rw [inU64_iff] at hb
  unfold cmpIntUint
  split
  · exact beq_eq_false_iff_ne.2 (by omega)
  · exact beq_eq_cmp a b

theorem beq_uintInt {a b : Int} (hb : inI64 b = true) : (a == b) = (cmpUintInt a b == .eq) := by
  rw [inI64_iff] at hb
  unfold cmpUintInt i64Max
  split
  · exact beq_eq_false_iff_ne.2 (by omega)
  · exact beq_eq_cmp a b

theorem eq_eq_cmp (a b : Value) (hb : WF b) (h : (Value.partialCmp a b).isSome) :
    Value.eq a b = (Value.partialCmp a b == some .eq) := by
  revert h
  fun_cases Value.partialCmp a b  -- `case n` is the `n`-th clause of `Value.partialCmp`
  all_goals intro h
  case case1 | case2 | case4 | case5 | case7 | case8 => exact (beq_eq_cmp _ _).trans Option.some_beq_some.symm
  case case3 | case6 | case10 | case12 => rfl
  case case9 => exact beq_intUint hb
  case case11 => exact beq_uintInt hb
  case case13 | case14 => exact beq_map_rev
  case case15 => cases h

theorem eq_of_cmp {a b : Value} (hb : WF b) {o : Ordering}
    (h : Value.partialCmp a b = some o) : Value.eq a b = (o == .eq) := by
  rw [eq_eq_cmp a b hb (by rw [h]; rfl), h]
  rfl

/-- numbers compare as the numbers they denote, across int, uint and double -/
theorem cmp_matches_key (a b : Value) (ha : WF a) (hb : WF b) (ka kb : F64.EInt)
    (hka : numKey a = some ka) (hkb : numKey b = some kb) :
    Value.partialCmp a b = some (F64.EInt.cmp ka kb) := by
  have _ := ha  -- not needed
  rw [partialCmp_eq_keyCmp a b hb, ordKey_of_numKey hka, ordKey_of_numKey hkb]
  rfl

/-- … and are equal exactly when they denote the same number -/
theorem eq_matches_key (a b : Value) (ha : WF a) (hb : WF b) (ka kb : F64.EInt)
    (hka : numKey a = some ka) (hkb : numKey b = some kb) :
    Value.eq a b = (F64.EInt.cmp ka kb == .eq) :=
  eq_of_cmp hb (cmp_matches_key a b ha hb ka kb hka hkb)

theorem cmpDD_none_left {x y : F64.D} (h : F64.keyD x = none) : F64.cmpDD x y = none := by
  simp only [F64.cmpDD, h]
theorem cmpDD_none_right {x y : F64.D} (h : F64.keyD y = none) : F64.cmpDD x y = none := by
  simp only [F64.cmpDD, h]
  cases F64.keyD x <;> rfl
theorem cmpIntD_none {i : Int} {b : UInt64} (h : F64.keyD (F64.decode b) = none) :
    F64.cmpIntD i (F64.decode b) = none := by
  rw [cmpIntD_matches_key, h]; rfl

theorem nan_aux {x : Option Ordering} (h : x = none) (f : Option Ordering → Option Ordering)
    (hf : f none = none) : f x = none ∧ (x == some .eq) = false := by
  subst h
  exact ⟨hf, rfl⟩

/-- NaN is unordered with and unequal to every number (itself included) -/
theorem nan_unordered_unequal (a b : Value) (ha : isNum a = true) (hb : isNum b = true)
    (hnan : numKey a = none ∨ numKey b = none) :
    Value.partialCmp a b = none ∧ Value.eq a b = false := by
  cases a <;> simp only [isNum, reduceCtorEq] at ha <;>
    cases b <;> simp only [isNum, reduceCtorEq] at hb <;>
    simp only [numKey, reduceCtorEq, or_self, or_false, false_or] at hnan
  -- in each pair both clauses test the same comparison, which a NaN leaves undefined
  case int.dbl | uint.dbl => exact nan_aux (cmpIntD_none hnan) id rfl
  case dbl.int | dbl.uint => exact nan_aux (cmpIntD_none hnan) (Option.map Ordering.rev) rfl
  case dbl.dbl =>
    rcases hnan with h | h
    · exact nan_aux (cmpDD_none_left h) id rfl
    · exact nan_aux (cmpDD_none_right h) id rfl

/-- `a != b` is the negation of `a == b` (operator level) -/
theorem ne_is_not_eq (a b : Value) :
    applyBin .ne a b = .ok (.bool (!Value.eq a b)) ∧ applyBin .eq a b = .ok (.bool (Value.eq a b)) :=
  ⟨rfl, rfl⟩

/-- wherever `<` is defined exactly one of a<b, a==b, a>b holds, `<=` is `<` or `==`,
`>=` is `>` or `==` -/
theorem trichotomy (a b : Value) (ha : WF a) (hb : WF b) (o : Ordering)
    (h : Value.partialCmp a b = some o) :
    relOp .lt a b = .ok (.bool (o == .lt)) ∧
    relOp .gt a b = .ok (.bool (o == .gt)) ∧
    relOp .le a b = .ok (.bool (o == .lt || o == .eq)) ∧
    relOp .ge a b = .ok (.bool (o == .gt || o == .eq)) ∧
    Value.eq a b = (o == .eq) := by
  have _ := ha  -- not needed
  refine ⟨?_, ?_, ?_, ?_, eq_of_cmp hb h⟩ <;> simp only [relOp, h] <;> cases o <;> rfl

/-- where the order is undefined all four ordering operators fail alike -/
theorem unordered_all_fail (a b : Value) (h : Value.partialCmp a b = none) :
    relOp .lt a b = .err .notcomparable ∧ relOp .le a b = .err .notcomparable ∧
    relOp .gt a b = .err .notcomparable ∧ relOp .ge a b = .err .notcomparable := by
  simp only [relOp, h, and_self]

theorem cmpStr_append_left (p a b : Str) : cmpStr (p ++ a) (p ++ b) = cmpStr a b := by
  induction p with
  | nil => rfl
  | cons c p ih => rw [List.cons_append, List.cons_append, cmpStr_cons_eq rfl]; exact ih

theorem cmpStr_lt_witness (a : Str) : ∀ b : Str, cmpStr a b = .lt →
    ∃ (p : List Char) (x y : Char) (r s : List Char),
      (a = p ∧ b = p ++ y :: s) ∨ (a = p ++ x :: r ∧ b = p ++ y :: s ∧ x.toNat < y.toNat) := by
  induction a with
  | nil =>
    intro b h
    cases b with
    | nil => simp [cmpStr] at h
    | cons y s => exact ⟨[], y, y, [], s, Or.inl ⟨rfl, rfl⟩⟩
  | cons x xs ih =>
    intro b h
    cases b with
    | nil => simp [cmpStr] at h
    | cons y ys =>
      rcases Nat.lt_trichotomy x.toNat y.toNat with p | p | p
      · exact ⟨[], x, y, xs, ys, Or.inr ⟨rfl, rfl, p⟩⟩
      · rw [cmpStr_cons_eq p] at h
        have hxy := Char.toNat_inj.1 p
        subst hxy
        obtain ⟨p', x', y', r, s, hh⟩ := ih ys h
        refine ⟨x :: p', x', y', r, s, ?_⟩
        rcases hh with ⟨h1, h2⟩ | ⟨h1, h2, h3⟩
        · left; exact ⟨by rw [h1], by rw [h2]; rfl⟩
        · right; exact ⟨by rw [h1]; rfl, by rw [h2]; rfl, h3⟩
      · rw [cmpStr_cons_gt p] at h; cases h

/-- strings compare by code point, lexicographically -/
theorem string_cmp_is_codepoint_lex (a b : Str) :
    Value.partialCmp (.str a) (.str b) = some (cmpStr a b) ∧
    (cmpStr a b = .eq ↔ a = b) ∧
    (cmpStr a b = .lt ↔ ∃ (p : List Char) (x y : Char) (r s : List Char),
        (a = p ∧ b = p ++ y :: s) ∨ (a = p ++ x :: r ∧ b = p ++ y :: s ∧ x.toNat < y.toNat)) := by
  refine ⟨rfl, Std.LawfulEqCmp.compare_eq_iff_eq, cmpStr_lt_witness a b, ?_⟩
  rintro ⟨p, x, y, r, s, ⟨h1, h2⟩ | ⟨h1, h2, h3⟩⟩
  · subst h1 h2
    have h := cmpStr_append_left a [] (y :: s)
    rw [List.append_nil] at h
    rw [h]; rfl
  · subst h1 h2
    rw [cmpStr_append_left]
    exact cmpStr_cons_lt h3

theorem eqList_eq (a : List Value) : ∀ b : List Value,
    eqList a b = (a.length == b.length && (List.zipWith Value.eq a b).all id) := by
  induction a with
  | nil => intro b; cases b <;> rfl
  | cons x xs ih =>
    intro b
    cases b with
    | nil => rfl
    | cons y ys =>
      have hl : (xs.length + 1 == ys.length + 1) = (xs.length == ys.length) := by simp
      simp only [eqList_cons, ih ys, List.length_cons, List.zipWith_cons_cons, List.all_cons, id, hl]
      exact Bool.and_left_comm _ _ _

theorem eqEntries_eq (b : MapV) (a : List (Key × Value)) :
    eqEntries a b = a.all (fun kv => match MapV.find? b kv.1 with
          | some v' => Value.eq kv.2 v'
          | none => false) := by
  induction a with
  | nil => rfl
  | cons kv rest ih =>
    obtain ⟨k, v⟩ := kv
    rw [eqEntries_cons, List.all_cons, ih]
    rfl

/-- lists are equal exactly when they have the same length and equal elements position-wise -/
theorem list_eq_iff_elementwise (a b : List Value) :
    Value.eq (.list a) (.list b) =
      (a.length == b.length && (List.zipWith Value.eq a b).all id) := by
  rw [Value.eq_list]
  exact eqList_eq a b

/-- maps are equal exactly when they have the same number of entries and every entry of the
one is present in the other under the same typed key with an equal value -/
theorem map_eq_iff_same_entries (a b : MapV) :
    Value.eq (.map a) (.map b) =
      (a.length == b.length &&
        a.all (fun kv => match MapV.find? b kv.1 with
          | some v' => Value.eq kv.2 v'
          | none => false)) := by
  rw [Value.eq_map, eqEntries_eq]

/-- the kinds of value among which equality / ordering can hold -/
def kind : Value → Nat
  | .int _ => 0 | .uint _ => 0 | .dbl _ => 0
  | .str _ => 1 | .bytes _ => 2 | .bool _ => 3 | .null => 4 | .list _ => 5 | .map _ => 6
  | .dur _ => 7 | .ts .. => 8 | .fn .. => 9

/-- values of unrelated types are unequal and not orderable -/
theorem unrelated_types_unequal_unordered (a b : Value) (h : kind a ≠ kind b) :
    Value.eq a b = false ∧ Value.partialCmp a b = none := by
  constructor
  · fun_cases Value.eq a b <;> first | rfl | exact absurd rfl h
  · fun_cases Value.partialCmp a b <;> first | rfl | exact absurd rfl h

def isScalar : Value → Bool
  | .list _ => false | .map _ => false | .fn .. => false | _ => true

theorem cmpDD_beq_comm {x y : F64.D} :
    (F64.cmpDD x y == some .eq) = (F64.cmpDD y x == some .eq) := by
  unfold F64.cmpDD
  cases F64.keyD x <;> cases F64.keyD y <;> try rfl
  rename_i kx ky
  show (some (F64.EInt.cmp kx ky) == some .eq) = (some (F64.EInt.cmp ky kx) == some .eq)
  rw [F64.EInt.cmp_swap kx ky]
  cases F64.EInt.cmp kx ky <;> rfl

/-- equality is symmetric on scalars (maps would need the distinct-keys invariant of `HashMap`,
which the association-list model does not enforce) -/
theorem eq_symm (a b : Value) (sa : isScalar a = true) (sb : isScalar b = true) :
    Value.eq a b = Value.eq b a := by
  cases a <;> try (cases sa; done)
  all_goals cases b <;> try (cases sb; done)
  -- 81 pairs of scalars: the same test both ways round, `==` on the payloads, or `cmpDD`
  all_goals first | rfl | exact BEq.comm | exact cmpDD_beq_comm

/-- lists of scalars: symmetric too -/
theorem eq_symm_scalar_lists (a b : List Value) (ha : ∀ x ∈ a, WF x ∧ isScalar x = true)
    (hb : ∀ x ∈ b, WF x ∧ isScalar x = true) :
    Value.eq (.list a) (.list b) = Value.eq (.list b) (.list a) := by
  rw [Value.eq_list, Value.eq_list]
  induction a generalizing b with
  | nil => cases b <;> rfl
  | cons x xs ih =>
    cases b with
    | nil => rfl
    | cons y ys =>
      rw [eqList_cons, eqList_cons]
      have hx := ha x List.mem_cons_self
      have hy := hb y List.mem_cons_self
      rw [eq_symm x y hx.2 hy.2]
      rw [ih ys (fun z hz => ha z (List.mem_cons_of_mem _ hz))
        (fun z hz => hb z (List.mem_cons_of_mem _ hz))]

theorem pcmp_refl {m : Value} (hm : WF m) (h : (Value.partialCmp m m).isSome) :
    Value.partialCmp m m = some .eq := by
  have hs := cmp_swap m m hm hm
  cases hc : Value.partialCmp m m with
  | none => rw [hc] at h; cases h
  | some o =>
    rw [hc] at hs
    cases o with
    | eq => rfl
    | lt => cases hs
    | gt => cases hs

/-- `m` is at least (`wg`) / at most (`¬ wg`) `y` -/
def dominates (wg : Bool) (m y : Value) : Prop :=
  ∃ o, Value.partialCmp m y = some o ∧ (if wg then o ≠ .lt else o ≠ .gt)

theorem dominates_trans {wg : Bool} {a b c : Value} (ha : WF a) (hb : WF b) (hc : WF c)
    (g1 : dominates wg a b) (g2 : dominates wg b c) : dominates wg a c := by
  obtain ⟨o1, h1, c1⟩ := g1
  obtain ⟨o2, h2, c2⟩ := g2
  by_cases e1 : o1 = .eq
  · subst e1
    exact ⟨o2, (cmp_congr ha hb hc h1).1 ▸ h2, c2⟩
  by_cases e2 : o2 = .eq
  · subst e2
    exact ⟨o1, (cmp_congr hb hc ha h2).2 ▸ h1, c1⟩
  have e : o2 = o1 := by cases wg <;> cases o1 <;> cases o2 <;> simp at c1 c2 e1 e2 ⊢
  subst e
  exact ⟨_, cmp_trans a b c ha hb hc _ h1 h2, c1⟩

section Extremum
/- the hypotheses of the fold do not change along it: they are stated for a fixed list `S` that
contains the accumulator and everything still to come -/
variable (wg : Bool) {S : List Value} (hwf : ∀ y ∈ S, WF y)
  (hcmp : ∀ y ∈ S, ∀ z ∈ S, (Value.partialCmp y z).isSome)
include hwf hcmp

theorem extremum_aux : ∀ (xs : List Value) (acc : Value), acc ∈ S → (∀ y ∈ xs, y ∈ S) →
    ∀ m, extremumFold wg acc xs = .ok m →
      m ∈ acc :: xs ∧ dominates wg m acc ∧ ∀ y ∈ xs, dominates wg m y
  | [], acc, hacc, _, m, h => by
    cases h
    refine ⟨List.mem_cons_self, ⟨.eq, pcmp_refl (hwf acc hacc) (hcmp acc hacc acc hacc), ?_⟩,
      fun _ hy => nomatch hy⟩
    cases wg <;> simp
  | x :: xs, acc, hacc, hxs, m, h => by
    obtain ⟨hx, hxs⟩ := List.forall_mem_cons.1 hxs
    cases hc : Value.partialCmp acc x with
    | none =>
      have := hcmp acc hacc x hx
      rw [hc] at this
      cases this
    | some o =>
      simp only [extremumFold, hc] at h
      by_cases hk : (if wg = true then o == .gt else o == .lt) = true
      · -- the accumulator stays: it dominates `x`, hence so does `m`
        rw [if_pos hk] at h
        obtain ⟨hm, gacc, gxs⟩ := extremum_aux xs acc hacc hxs m h
        have hmS : m ∈ S := List.forall_mem_cons.2 ⟨hacc, hxs⟩ m hm
        have gax : dominates wg acc x := ⟨o, hc, by revert hk; cases wg <;> cases o <;> decide⟩
        refine ⟨?_, gacc, List.forall_mem_cons.2
          ⟨dominates_trans (hwf m hmS) (hwf acc hacc) (hwf x hx) gacc gax, gxs⟩⟩
        rcases List.mem_cons.1 hm with rfl | hm
        · exact List.mem_cons_self
        · exact List.mem_cons_of_mem _ (List.mem_cons_of_mem _ hm)
      · -- `x` becomes the accumulator: it dominates the old one
        rw [if_neg hk] at h
        obtain ⟨hm, gx, gxs⟩ := extremum_aux xs x hx hxs m h
        have hmS : m ∈ S := List.forall_mem_cons.2 ⟨hx, hxs⟩ m hm
        have gxa : dominates wg x acc :=
          ⟨Ordering.rev o, by rw [cmp_swap acc x (hwf acc hacc) (hwf x hx), hc]; rfl,
            by revert hk; cases wg <;> cases o <;> decide⟩
        exact ⟨List.mem_cons_of_mem _ hm,
          dominates_trans (hwf m hmS) (hwf x hx) (hwf acc hacc) gx gxa,
          List.forall_mem_cons.2 ⟨gx, gxs⟩⟩

omit hwf in
theorem extremum_defined_aux : ∀ (xs : List Value) (acc : Value), acc ∈ S → (∀ y ∈ xs, y ∈ S) →
    ∃ m, extremumFold wg acc xs = .ok m
  | [], acc, _, _ => ⟨acc, rfl⟩
  | x :: xs, acc, hacc, hxs => by
    obtain ⟨hx, hxs⟩ := List.forall_mem_cons.1 hxs
    cases hc : Value.partialCmp acc x with
    | none =>
      have := hcmp acc hacc x hx
      rw [hc] at this
      cases this
    | some o =>
      simp only [extremumFold, hc]
      generalize (if wg = true then o == Ordering.gt else o == Ordering.lt) = keep
      cases keep
      · exact extremum_defined_aux xs x hx hxs
      · exact extremum_defined_aux xs acc hacc hxs

end Extremum

/-- the loop of `max` / `min`, `extremumFold`, over a first value and a list of mutually comparable
values returns one of them that bounds all the others.  How `extremumFn` gets there (one list
argument, or several arguments) is not part of the statement. -/
theorem extremum_is_member_and_bound (wantGreater : Bool) (x : Value) (xs : List Value)
    (hwf : ∀ y ∈ x :: xs, WF y)
    (hcmp : ∀ y ∈ x :: xs, ∀ z ∈ x :: xs, (Value.partialCmp y z).isSome)
    (m : Value) (h : extremumFold wantGreater x xs = .ok m) :
    m ∈ x :: xs ∧
    ∀ y ∈ x :: xs, ∃ o, Value.partialCmp m y = some o ∧
      (if wantGreater then o ≠ .lt else o ≠ .gt) := by
  obtain ⟨hm, g0, gs⟩ := extremum_aux wantGreater hwf hcmp xs x List.mem_cons_self
    (fun _ hy => List.mem_cons_of_mem _ hy) m h
  exact ⟨hm, List.forall_mem_cons.2 ⟨g0, gs⟩⟩

/-- on mutually comparable values the fold never fails -/
theorem extremum_defined (wantGreater : Bool) (x : Value) (xs : List Value)
    (hcmp : ∀ y ∈ x :: xs, ∀ z ∈ x :: xs, (Value.partialCmp y z).isSome) :
    ∃ m, extremumFold wantGreater x xs = .ok m :=
  extremum_defined_aux wantGreater hcmp xs x List.mem_cons_self
    (fun _ hy => List.mem_cons_of_mem _ hy)

end Cel.Props.C09
