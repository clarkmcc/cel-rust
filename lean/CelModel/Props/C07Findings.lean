import CelModel.Props.C07Cost
/-!
# C07 — the recorded defect D27, as a theorem about the model

The cost theorems of C07Cost and C07Nested assume `CtxLinear`: no registered host function
combines the all-arguments extractor with another argument-consuming extractor.  The assumption is
needed: with the signature `(This<T>, Arguments)` a global-style call evaluates its first argument
twice, once as the receiver and once as part of `Arguments`.  The witness below is replayed on the
implementation by the C07 check (known finding D27).
-/
namespace Cel.Props.C07

/-- a context with a logging identity `t` and a host function `ta(This<Value>, Arguments)` -/
def d27Ctx : Ctx :=
  { scopes := [[]],
    fns := [("t", .host [.pos .value] .first),
            ("ta", .host [.this .value, .allArgs] (.const (.int 7)))] }

/-- `ta(t(1), t(2))` -/
def d27Call : Expr := .call "ta" [.call "t" [.lit (.int 1)], .call "t" [.lit (.int 2)]]
/-- `t(1).ta(t(2))` -/
def d27Method : Expr := .mcall "ta" (.call "t" [.lit (.int 1)]) [.call "t" [.lit (.int 2)]]

/-- D27: in global style the first argument is evaluated twice (`t` is logged three times for two
`t(…)` operands) -/
theorem this_plus_arguments_counterexample :
    ((execute d27Ctx d27Call).2.log.map (·.name)) = ["t", "t", "t", "ta"] := by
  decide +kernel

/-- in receiver style every operand is evaluated once -/
theorem this_plus_arguments_receiver_style_once :
    ((execute d27Ctx d27Method).2.log.map (·.name)) = ["t", "t", "ta"] := by
  decide +kernel

/-- the signature `(This<Value>, Arguments)` is exactly what `CtxLinear` excludes -/
theorem d27_not_linear : ¬ C07Cost.CtxLinear d27Ctx := by
  intro h
  have := h "ta" [.this .value, .allArgs] (.const (.int 7)) (by rfl)
  revert this
  decide

end Cel.Props.C07
