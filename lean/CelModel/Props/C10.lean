import CelModel.Lemmas.Obs
import CelModel.Lemmas.AList
import CelModel.Lemmas.NumLemmas
import CelModel.Macros
import CelModel.Props.C07
/-!
# C10 — comprehension macros compute their defining folds

`ObsEq` is equality of outcome and host-call log from every start state; the step counter is
bookkeeping that no computation ever reads.  Each node of an expanded macro is first described up
to ticks (`lit_obs` … `bin_obs`); a comprehension whose condition, step and result are so described
as functions of the accumulator and the element computes `loopFold` of them (`loopRes_fold`); what
is left per macro is an identity between `loopFold` and the defining fold, with no `eval` in it.

The specifications assume `v ≠ accu`: the iteration variable is not the accumulator's name
`@result`, which no source identifier is; for the same reason a user's body does not depend on the
`acc` argument of `bodyAt`.
-/
namespace Cel.Props.C10
open Cel.Macros

def ObsEq (m1 m2 : EvalM α) : Prop :=
  ∀ s, (m1 s).1 = (m2 s).1 ∧ (m1 s).2.log = (m2 s).2.log

/-- the elements a macro ranges over: list elements, or map keys -/
def rangeItems : Value → Option (List Value)
  | .list xs => some xs
  | .map m => some (m.map (fun kv => kv.1.toValue))
  | _ => none

theorem rangeOf_eq (r : Value) :
    rangeOf r = match rangeItems r with
      | none => M.throw .badTarget
      | some xs => pure xs := by
  cases r <;> rfl

/-- evaluate the range, then run `k` over its elements; a range that is neither a list nor a map is
the error `unsupported_target_type` -/
def overRange (ctx : Ctx) (range : Expr) (k : List Value → EvalM Value) : EvalM Value := do
  let r ← eval ctx range
  match rangeItems r with
  | none => M.throw .badTarget
  | some xs => k xs

/-- the macro body with the iteration variable bound to `x`, in the macro's own scope whose
accumulator currently holds `acc` -/
def bodyAt (ctx : Ctx) (v : String) (body : Expr) (acc x : Value) : EvalM Value :=
  eval (ctx.push [(accu, acc), (v, x)]) body

/-- conjunction in order, stopping at the first falsy element; an error on a reached element aborts -/
def allFold (b : Value → EvalM Value) : List Value → EvalM Value
  | [] => pure (.bool true)
  | x :: xs => do
    let r ← b x
    if r.truthy then allFold b xs else pure (.bool false)

/-- disjunction in order, stopping at the first truthy element (whose value is the result) -/
def existsFold (b : Value → Value → EvalM Value) : List Value → Value → EvalM Value
  | [], acc => pure acc
  | x :: xs, acc => do
    let r ← b acc x
    if r.truthy then pure r else existsFold b xs r

/-- number of satisfying elements; every element is visited -/
def countFold (b : Value → Value → EvalM Value) : List Value → Int → EvalM Int
  | [], n => pure n
  | x :: xs, n => do
    let r ← b (.int n) x
    countFold b xs (if r.truthy then n + 1 else n)

/-- `map(x, f)`: the transformed elements, in order -/
def mapFold (f : Value → Value → EvalM Value) : List Value → List Value → EvalM (List Value)
  | [], acc => pure acc
  | x :: xs, acc => do
    let y ← f (.list acc) x
    mapFold f xs (acc ++ [y])

/-- `map(x, p, f)`: the transformed elements of those that satisfy `p`, in order -/
def mapFilterFold (p f : Value → Value → EvalM Value) :
    List Value → List Value → EvalM (List Value)
  | [], acc => pure acc
  | x :: xs, acc => do
    let c ← p (.list acc) x
    if c.truthy then do
      let y ← f (.list acc) x
      mapFilterFold p f xs (acc ++ [y])
    else mapFilterFold p f xs acc

/-- `filter(x, p)`: the satisfying elements, in order -/
def filterFold (p : Value → Value → EvalM Value) : List Value → List Value → EvalM (List Value)
  | [], acc => pure acc
  | x :: xs, acc => do
    let c ← p (.list acc) x
    filterFold p xs (if c.truthy then acc ++ [x] else acc)

theorem Obs.obsEq {m1 m2 : EvalM α} (h : Obs m1 m2) : ObsEq m1 m2 := fun s => h s s rfl

/-- the step counter never influences evaluation: shifting it commutes with `eval` -/
theorem eval_steps_irrelevant (ctx : Ctx) (e : Expr) (s : St Value) (k : Nat) :
    eval ctx e { s with steps := s.steps + k } =
      ((eval ctx e s).1, { (eval ctx e s).2 with steps := (eval ctx e s).2.steps + k }) :=
  eval_SI e ctx s k

theorem throw_bind (e : ErrC) (f : α → EvalM γ) : (M.throw e : EvalM α) >>= f = M.throw e := rfl

theorem lit_obs {ctx : Ctx} {v : Value} : Obs (eval ctx (.lit v)) (pure v) := by
  rw [eval_lit]
  exact Obs.tick_left Obs.pure

theorem emptyList_obs (ctx : Ctx) : Obs (eval ctx (.list [])) (pure (.list [])) := by
  rw [eval_list, evalList_nil]
  exact Obs.tick_left Obs.pure

theorem list1_obs {ctx : Ctx} (f : Expr) :
    Obs (eval ctx (.list [f])) (eval ctx f >>= fun y => pure (.list [y])) := by
  rw [eval_list, evalList_cons, evalList_nil]
  apply Obs.tick_left
  rw [M.bind_assoc]
  exact Obs.bind (eval_obs _ _) (fun _ => Obs.pure)

theorem un_obs {ctx : Ctx} (op : UnOp) {e : Expr} {a : Value} (h : Obs (eval ctx e) (pure a)) :
    Obs (eval ctx (.call op.name [e])) (M.lift (applyUn op a)) := by
  rw [C07.unop_operand_once]
  apply Obs.tick_left
  exact Obs.bind_pure_left h Obs.lift

theorem and_obs {ctx : Ctx} {a b : Expr} {va : Value} (h : Obs (eval ctx a) (pure va)) :
    Obs (eval ctx (.call "_&&_" [a, b]))
      (if !va.truthy then pure (.bool false)
        else eval ctx b >>= fun r => pure (.bool r.truthy)) := by
  rw [eval_and]
  apply Obs.tick_left
  apply Obs.bind_pure_left h
  exact Obs.ite (fun _ => Obs.pure) (fun _ => Obs.bind (eval_obs _ _) (fun _ => Obs.pure))

theorem or_obs {ctx : Ctx} {a b : Expr} {va : Value} (h : Obs (eval ctx a) (pure va)) :
    Obs (eval ctx (.call "_||_" [a, b])) (if va.truthy then pure va else eval ctx b) := by
  rw [eval_or]
  apply Obs.tick_left
  apply Obs.bind_pure_left h
  exact Obs.ite (fun _ => Obs.pure) (fun _ => eval_obs _ _)

theorem cond_obs {ctx : Ctx} {c x y : Expr} {X Y : EvalM Value}
    (hx : Obs (eval ctx x) X) (hy : Obs (eval ctx y) Y) :
    Obs (eval ctx (.call "_?_:_" [c, x, y]))
      (eval ctx c >>= fun cv => if cv.truthy then X else Y) := by
  rw [eval_cond]
  apply Obs.tick_left
  apply Obs.bind (eval_obs _ _)
  intro cv
  exact Obs.ite (fun _ => hx) (fun _ => hy)

theorem bin_obs {ctx : Ctx} (op : BinOp) (hop : op ≠ .and ∧ op ≠ .or) {a b : Expr} {va : Value}
    {B : EvalM Value} (ha : Obs (eval ctx a) (pure va)) (hb : Obs (eval ctx b) B) :
    Obs (eval ctx (.call op.name [a, b])) (B >>= fun r => M.lift (applyBin op va r)) := by
  rw [C07.strict_binop_operands_once_in_order ctx op a b hop]
  apply Obs.tick_left
  apply Obs.bind_pure_left ha
  exact Obs.bind hb (fun _ => Obs.lift)

/-- the shapes the comprehension scope of a macro takes: before the first element, and after
an element `x` has been bound -/
def Shape (v : String) (sc : Scope) (acc : Value) : Prop :=
  sc = [(accu, acc)] ∨ ∃ x, sc = [(accu, acc), (v, x)]

theorem accu_ne {v : String} (hv : v ≠ accu) : (accu == v) = false := by
  simp only [beq_eq_false_iff_ne, ne_eq]
  exact fun h => hv h.symm

theorem Shape.insert {v : String} {sc : Scope} {acc : Value} (hv : v ≠ accu)
    (hs : Shape v sc acc) (x : Value) : Ctx.scopeInsert sc v x = [(accu, acc), (v, x)] := by
  have := accu_ne hv
  rcases hs with rfl | ⟨y, rfl⟩ <;> simp [Ctx.scopeInsert, this]

theorem insert_accu (v : String) (acc acc' x : Value) :
    Ctx.scopeInsert [(accu, acc), (v, x)] accu acc' = [(accu, acc'), (v, x)] := by
  simp [Ctx.scopeInsert]

theorem Shape.step (v : String) (acc x : Value) : Shape v [(accu, acc), (v, x)] acc :=
  Or.inr ⟨x, rfl⟩

theorem ident_obs (ctx : Ctx) {sc : Scope} {n : String} {x : Value}
    (h : Ctx.lookupScope sc n = some x) : Obs (eval (ctx.push sc) (.ident n)) (pure x) := by
  rw [eval_ident]
  apply Obs.tick_left
  rw [ctx.getVariable_push_of_lookup h]
  exact Obs.pure

theorem accu_obs (ctx : Ctx) {v : String} {sc : Scope} {acc : Value} (hs : Shape v sc acc) :
    Obs (eval (ctx.push sc) accuIdent) (pure acc) := by
  apply ident_obs
  rcases hs with rfl | ⟨x, rfl⟩ <;> simp [Ctx.lookupScope]

theorem iter_obs (ctx : Ctx) {v : String} (hv : v ≠ accu) (acc x : Value) :
    Obs (eval (ctx.push [(accu, acc), (v, x)]) (.ident v)) (pure x) := by
  apply ident_obs
  simp [Ctx.lookupScope, accu_ne hv]

/-! ### the loop computes `loopFold` of the descriptions -/

def loopRes (ctx : Ctx) (v : String) (cond step result : Expr) (xs : List Value) (sc : Scope) :
    EvalM Value :=
  loopG v accu (fun sc => eval (ctx.push sc) cond) (fun sc => eval (ctx.push sc) step) xs sc
    >>= fun sc => eval (ctx.push sc) result

theorem loopRes_stable {ctx : Ctx} {v : String} {cond step result : Expr} {xs : List Value}
    {sc : Scope} :
    Obs (loopRes ctx v cond step result xs sc) (loopRes ctx v cond step result xs sc) :=
  (SI.bind_ret
    (SI.closed.loopG v accu (D := fun _ => True) (fun _ _ _ _ => trivial) (fun _ _ => eval_SI _ _)
      (fun _ _ _ => eval_SI _ _) xs trivial)
    (fun _ _ => eval_SI _ _)).obs

theorem loopRes_nil (ctx : Ctx) (v : String) (cond step result : Expr) (sc : Scope) :
    loopRes ctx v cond step result [] sc = eval (ctx.push sc) result := by
  simp only [loopRes, loopG_nil, M.pure_bind]

theorem loopRes_cons (ctx : Ctx) (v : String) (cond step result : Expr) (x : Value)
    (xs : List Value) (sc : Scope) :
    loopRes ctx v cond step result (x :: xs) sc =
      (eval (ctx.push sc) cond >>= fun c =>
        if !c.truthy then eval (ctx.push sc) result
        else eval (ctx.push (Ctx.scopeInsert sc v x)) step >>= fun acc =>
          loopRes ctx v cond step result xs
            (Ctx.scopeInsert (Ctx.scopeInsert sc v x) accu acc)) := by
  simp only [loopRes, loopG_cons, M.bind_assoc]
  apply M.bind_congr
  intro c
  split
  · rw [M.pure_bind]
  · rw [M.bind_assoc]

/-- the fold a comprehension computes when its condition, step and result denote the
computations `C acc`, `S acc x`, `R acc` -/
def loopFold (C : Value → EvalM Value) (S : Value → Value → EvalM Value) (R : Value → EvalM Value) :
    List Value → Value → EvalM Value
  | [], acc => R acc
  | x :: xs, acc => C acc >>= fun c =>
    if !c.truthy then R acc else S acc x >>= fun acc' => loopFold C S R xs acc'

theorem loopFold_true (S : Value → Value → EvalM Value) (R : Value → EvalM Value) (x : Value)
    (xs : List Value) (acc : Value) :
    loopFold (fun _ => pure (.bool true)) S R (x :: xs) acc =
      S acc x >>= fun acc' => loopFold (fun _ => pure (.bool true)) S R xs acc' := rfl

theorem loopRes_fold (ctx : Ctx) {v : String} (hv : v ≠ accu) {cond step result : Expr}
    {C : Value → EvalM Value} {S : Value → Value → EvalM Value} {R : Value → EvalM Value}
    (hc : ∀ ⦃sc acc⦄, Shape v sc acc → Obs (eval (ctx.push sc) cond) (C acc))
    (hs : ∀ acc x, Obs (eval (ctx.push [(accu, acc), (v, x)]) step) (S acc x))
    (hr : ∀ ⦃sc acc⦄, Shape v sc acc → Obs (eval (ctx.push sc) result) (R acc))
    (xs : List Value) : ∀ ⦃sc acc⦄, Shape v sc acc →
    Obs (loopRes ctx v cond step result xs sc) (loopFold C S R xs acc) := by
  induction xs with
  | nil =>
    intro sc acc h
    rw [loopRes_nil, loopFold]
    exact hr h
  | cons x xs ih =>
    intro sc acc h
    rw [loopRes_cons, loopFold, h.insert hv]
    apply Obs.bind (hc h)
    intro c
    apply Obs.ite (fun _ => hr h)
    intro _
    apply Obs.bind (hs acc x)
    intro acc'
    rw [insert_accu]
    exact ih (Shape.step v acc' x)

theorem comp_obs (ctx : Ctx) (v : String) (range init cond step result : Expr) (i : Value)
    (k : List Value → EvalM Value) (hinit : Obs (eval ctx init) (pure i))
    (hk : ∀ xs, Obs (loopRes ctx v cond step result xs [(accu, i)]) (k xs)) :
    Obs (eval ctx (.comp v range accu init cond step result)) (overRange ctx range k) := by
  rw [eval_comp]
  apply Obs.tick_left
  apply Obs.bind_pure_left hinit
  apply Obs.bind (eval_obs range ctx)
  intro r
  rw [rangeOf_eq]
  cases rangeItems r with
  | none => exact Obs.throw
  | some xs => exact hk xs

theorem comp_fold (ctx : Ctx) {v : String} (hv : v ≠ accu) (range : Expr)
    {init cond step result : Expr} {i : Value} {C : Value → EvalM Value}
    {S : Value → Value → EvalM Value} {R : Value → EvalM Value} {k : List Value → EvalM Value}
    (hinit : Obs (eval ctx init) (pure i))
    (hc : ∀ ⦃sc acc⦄, Shape v sc acc → Obs (eval (ctx.push sc) cond) (C acc))
    (hs : ∀ acc x, Obs (eval (ctx.push [(accu, acc), (v, x)]) step) (S acc x))
    (hr : ∀ ⦃sc acc⦄, Shape v sc acc → Obs (eval (ctx.push sc) result) (R acc))
    (hk : ∀ xs, loopFold C S R xs i = k xs) :
    ObsEq (eval ctx (.comp v range accu init cond step result)) (overRange ctx range k) :=
  Obs.obsEq (comp_obs ctx v range init cond step result i k hinit fun xs =>
    hk xs ▸ loopRes_fold ctx hv hc hs hr xs (Or.inl rfl))

/-! ### the macros: one identity between `loopFold` and the defining fold each -/

theorem truthy_bool (b : Bool) : (Value.bool b).truthy = b := rfl

theorem allFold_eq {b : Value → Value → EvalM Value} (xs : List Value) :
    loopFold (fun acc => M.lift (applyUn .notStrictlyFalse acc))
      (fun acc x =>
        if !acc.truthy then pure (.bool false) else b acc x >>= fun r => pure (.bool r.truthy))
      pure xs (.bool true) = allFold (b (.bool true)) xs := by
  induction xs with
  | nil => rfl
  | cons x xs ih =>
    rw [loopFold, allFold]
    simp only [applyUn, M.lift_ok, M.pure_bind, truthy_bool, Bool.not_true, Bool.false_eq_true,
      if_false, M.bind_assoc]
    apply M.bind_congr
    intro r
    cases r.truthy
    · -- the accumulator is `false`: the next condition check ends the loop
      cases xs <;> rfl
    · exact ih

theorem all_spec (ctx : Ctx) (v : String) (range body : Expr) (hv : v ≠ accu) :
    ObsEq (eval ctx (expandAll v range body))
      (overRange ctx range (allFold (bodyAt ctx v body (.bool true)))) :=
  comp_fold ctx hv range lit_obs
    (fun _ _ h => un_obs .notStrictlyFalse (accu_obs ctx h))
    (fun _ x => and_obs (accu_obs ctx (Shape.step v _ x))) (fun _ _ h => accu_obs ctx h)
    allFold_eq

theorem exists_cond_obs (ctx : Ctx) {v : String} {sc : Scope} {acc : Value} (hs : Shape v sc acc) :
    Obs (eval (ctx.push sc) (.call "@not_strictly_false" [.call "!_" [accuIdent]]))
      (pure (.bool (!acc.truthy))) :=
  un_obs .notStrictlyFalse (un_obs .not (accu_obs ctx hs))

theorem existsFold_eq {b : Value → Value → EvalM Value} (xs : List Value) :
    ∀ ⦃acc⦄, acc.truthy = false →
    loopFold (fun acc => pure (.bool (!acc.truthy)))
      (fun acc x => if acc.truthy then pure acc else b acc x)
      pure xs acc = existsFold b xs acc := by
  induction xs with
  | nil => intro acc _; rfl
  | cons x xs ih =>
    intro acc hacc
    rw [loopFold, existsFold]
    simp only [M.pure_bind, truthy_bool, hacc, Bool.not_false, Bool.not_true, Bool.false_eq_true,
      if_false]
    apply M.bind_congr
    intro r
    cases hr : r.truthy
    · exact ih hr
    · -- the accumulator is truthy: the next condition check ends the loop
      cases xs <;> simp [loopFold, hr, M.pure_bind, truthy_bool]

theorem exists_spec (ctx : Ctx) (v : String) (range body : Expr) (hv : v ≠ accu) :
    ObsEq (eval ctx (expandExists v range body))
      (overRange ctx range (fun xs => existsFold (bodyAt ctx v body) xs (.bool false))) :=
  comp_fold ctx hv range lit_obs (fun _ _ h => exists_cond_obs ctx h)
    (fun _ x => or_obs (accu_obs ctx (Shape.step v _ x))) (fun _ _ h => accu_obs ctx h)
    (fun xs => existsFold_eq xs rfl)

theorem add_one_ok (n : Int) (h0 : 0 ≤ n) (h1 : n + 1 ≤ i64Max) :
    applyBin .add (.int n) (.int 1) = .ok (.int (n + 1)) := by
  have : inI64 (n + 1) = true := by
    unfold i64Max at h1
    exact (inI64_iff _).2 (by omega)
  simp [applyBin, arith, intArith, chk, this, Outcome.map]

theorem countFold_eq {b : Value → Value → EvalM Value} (xs : List Value) :
    ∀ n : Int, 0 ≤ n → n + (xs.length : Int) ≤ i64Max →
    loopFold (fun _ => pure (.bool true))
      (fun acc x => b acc x >>= fun c =>
        if c.truthy then pure (.int 1) >>= fun r => M.lift (applyBin .add acc r) else pure acc)
      (fun acc => pure (.bool (Value.eq acc (.int 1)))) xs (.int n) =
      countFold b xs n >>= fun n => pure (.bool (n == 1)) := by
  induction xs with
  | nil => intro n _ _; rw [loopFold, countFold, M.pure_bind, Value.eq]
  | cons x xs ih =>
    intro n h0 h1
    rw [List.length_cons] at h1
    rw [loopFold_true, countFold, M.bind_assoc, M.bind_assoc]
    simp only [M.pure_bind, add_one_ok n h0 (by omega), M.lift_ok]
    apply M.bind_congr
    intro r
    cases r.truthy
    · exact ih n h0 (by omega)
    · exact ih (n + 1) (by omega) (by omega)

/-- a range of more than `i64Max` elements could overflow the counter; for such a range the
statement only compares the macro with itself on the evaluated range -/
theorem exists_one_spec (ctx : Ctx) (v : String) (range body : Expr) (hv : v ≠ accu) :
    ObsEq (eval ctx (expandExistsOne v range body))
      (overRange ctx range (fun xs =>
        if (xs.length : Int) ≤ i64Max then do
          let n ← countFold (bodyAt ctx v body) xs 0
          pure (.bool (n == 1))
        else eval ctx (expandExistsOne v (.lit (.list xs)) body))) := by
  apply Obs.obsEq
  unfold expandExistsOne
  apply comp_obs ctx v range _ _ _ _ (.int 0) _ lit_obs
  intro xs
  split
  · rename_i hlen
    rw [← countFold_eq xs 0 (Int.le_refl 0) (by omega)]
    exact loopRes_fold ctx hv (fun _ _ _ => lit_obs)
      (fun _ x => cond_obs
        (bin_obs .add (by decide) (accu_obs ctx (Shape.step v _ x)) lit_obs)
        (accu_obs ctx (Shape.step v _ x)))
      (fun _ _ h => bin_obs .eq (by decide) (accu_obs ctx h) lit_obs) xs (Or.inl rfl)
  · -- the macro over the literal `xs` is taken down by `comp_obs` to the very same `loopRes`, on
    -- which `Obs` is reflexive (`loopRes_stable`)
    apply Obs.symm
    refine Obs.trans (comp_obs ctx v (.lit (.list xs)) _ _ _ _ (.int 0)
      (fun ys => loopRes ctx v _ _ _ ys [(accu, .int 0)]) lit_obs
      (fun ys => loopRes_stable)) ?_
    unfold overRange
    apply Obs.bind_pure_left lit_obs
    simp only [rangeItems]
    exact loopRes_stable

/-- `accu + [f]` as the step denotes it -/
def appendStep (f : Value → Value → EvalM Value) (acc x : Value) : EvalM Value :=
  (f acc x >>= fun y => pure (.list [y])) >>= fun r => M.lift (applyBin .add acc r)

theorem appendStep_list (f : Value → Value → EvalM Value) (acc : List Value) (x : Value) :
    appendStep f (.list acc) x = f (.list acc) x >>= fun y => pure (.list (acc ++ [y])) := by
  rw [appendStep, M.bind_assoc]
  rfl

theorem append_obs (ctx : Ctx) (v : String) (f : Expr) (acc x : Value) :
    Obs (eval (ctx.push [(accu, acc), (v, x)]) (.call "_+_" [accuIdent, .list [f]]))
      (appendStep (bodyAt ctx v f) acc x) :=
  bin_obs .add (by decide) (accu_obs ctx (Shape.step v acc x)) (list1_obs f)

theorem append_iter_obs (ctx : Ctx) {v : String} (hv : v ≠ accu) (acc x : Value) :
    Obs (eval (ctx.push [(accu, acc), (v, x)]) (.call "_+_" [accuIdent, .list [.ident v]]))
      (appendStep (fun _ x => pure x) acc x) :=
  Obs.trans (append_obs ctx v (.ident v) acc x)
    (Obs.bind (Obs.bind (iter_obs ctx hv acc x) fun _ => Obs.pure) fun _ => Obs.lift)

theorem mapFold_eq {f : Value → Value → EvalM Value} (xs : List Value) : ∀ acc,
    loopFold (fun _ => pure (.bool true)) (appendStep f) pure xs (.list acc) =
      mapFold f xs acc >>= fun ys => pure (.list ys) := by
  induction xs with
  | nil => intro acc; rfl
  | cons x xs ih =>
    intro acc
    rw [loopFold_true, mapFold, appendStep_list, M.bind_assoc, M.bind_assoc]
    simp only [M.pure_bind, ih]

theorem mapFilterFold_eq {p f : Value → Value → EvalM Value} (xs : List Value) : ∀ acc,
    loopFold (fun _ => pure (.bool true))
      (fun acc x => p acc x >>= fun c => if c.truthy then appendStep f acc x else pure acc)
      pure xs (.list acc) = mapFilterFold p f xs acc >>= fun ys => pure (.list ys) := by
  induction xs with
  | nil => intro acc; rfl
  | cons x xs ih =>
    intro acc
    rw [loopFold_true, mapFilterFold, M.bind_assoc, M.bind_assoc]
    apply M.bind_congr
    intro c
    cases c.truthy
    · simp only [Bool.false_eq_true, if_false, M.pure_bind, ih]
    · simp only [if_true, appendStep_list, M.bind_assoc, M.pure_bind, ih]

theorem filterFold_eq {p : Value → Value → EvalM Value} (xs : List Value) : ∀ acc,
    loopFold (fun _ => pure (.bool true))
      (fun acc x => p acc x >>= fun c =>
        if c.truthy then appendStep (fun _ x => pure x) acc x else pure acc)
      pure xs (.list acc) = filterFold p xs acc >>= fun ys => pure (.list ys) := by
  induction xs with
  | nil => intro acc; rfl
  | cons x xs ih =>
    intro acc
    rw [loopFold_true, filterFold, M.bind_assoc, M.bind_assoc]
    apply M.bind_congr
    intro c
    cases c.truthy
    · simp only [Bool.false_eq_true, if_false, M.pure_bind, ih]
    · simp only [if_true, appendStep_list, M.pure_bind, ih]

theorem map_spec (ctx : Ctx) (v : String) (range f : Expr) (hv : v ≠ accu) :
    ObsEq (eval ctx (expandMap v range f))
      (overRange ctx range (fun xs => do
        let ys ← mapFold (bodyAt ctx v f) xs []
        pure (.list ys))) :=
  comp_fold ctx hv range (emptyList_obs ctx) (fun _ _ _ => lit_obs) (append_obs ctx v f)
    (fun _ _ h => accu_obs ctx h) (fun xs => mapFold_eq xs [])

theorem map_filter_spec (ctx : Ctx) (v : String) (range p f : Expr) (hv : v ≠ accu) :
    ObsEq (eval ctx (expandMapFilter v range p f))
      (overRange ctx range (fun xs => do
        let ys ← mapFilterFold (bodyAt ctx v p) (bodyAt ctx v f) xs []
        pure (.list ys))) :=
  comp_fold ctx hv range (emptyList_obs ctx) (fun _ _ _ => lit_obs)
    (fun acc x => cond_obs (append_obs ctx v f acc x) (accu_obs ctx (Shape.step v acc x)))
    (fun _ _ h => accu_obs ctx h) (fun xs => mapFilterFold_eq xs [])

theorem filter_spec (ctx : Ctx) (v : String) (range p : Expr) (hv : v ≠ accu) :
    ObsEq (eval ctx (expandFilter v range p))
      (overRange ctx range (fun xs => do
        let ys ← filterFold (bodyAt ctx v p) xs []
        pure (.list ys))) :=
  comp_fold ctx hv range (emptyList_obs ctx) (fun _ _ _ => lit_obs)
    (fun acc x => cond_obs (append_iter_obs ctx hv acc x) (accu_obs ctx (Shape.step v acc x)))
    (fun _ _ h => accu_obs ctx h) (fun xs => filterFold_eq xs [])

/-- elements after the deciding one are not visited -/
theorem allFold_stops (b : Value → EvalM Value) (xs rest : List Value) (x : Value)
    (hx : ∀ s, ∃ r s', b x s = (.ok r, s') ∧ r.truthy = false) :
    allFold b (xs ++ x :: rest) = allFold b (xs ++ [x]) := by
  induction xs with
  | nil =>
    funext s
    obtain ⟨r, s', h, hr⟩ := hx s
    simp only [List.nil_append, allFold]
    rw [M.bind_ok h, M.bind_ok h]
    simp [hr]
  | cons y ys ih =>
    simp only [List.cons_append, allFold]
    rw [ih]

theorem existsFold_stops (b : Value → Value → EvalM Value) (xs rest : List Value) (x acc : Value)
    (hx : ∀ a s, ∃ r s', b a x s = (.ok r, s') ∧ r.truthy = true) :
    existsFold b (xs ++ x :: rest) acc = existsFold b (xs ++ [x]) acc := by
  induction xs generalizing acc with
  | nil =>
    funext s
    obtain ⟨r, s', h, hr⟩ := hx acc s
    simp only [List.nil_append, existsFold]
    rw [M.bind_ok h, M.bind_ok h]
    simp [hr]
  | cons y ys ih =>
    simp only [List.cons_append, existsFold]
    apply M.bind_congr
    intro r
    split
    · rfl
    · exact ih r

/-- `all`: an error of the body on the head element is the result, in the state the body left, and no
later element is visited; in the other folds the same is built into their `>>=` -/
theorem allFold_error_aborts (b : Value → EvalM Value) (x : Value) (rest : List Value)
    (s s' : St Value) (e : ErrC) (hx : b x s = (.err e, s')) :
    allFold b (x :: rest) s = (.err e, s') := by
  rw [allFold]
  exact M.bind_err hx

/-- on a pure Boolean predicate the defining fold of `filter` is `List.filter`: order kept, exactly the
satisfying elements; likewise `map`, `all`, `exists` below -/
theorem filterFold_pure (q : Value → Bool) (xs acc : List Value) (s : St Value) :
    filterFold (fun _ x => pure (.bool (q x))) xs acc s = (.ok (acc ++ xs.filter q), s) := by
  induction xs generalizing acc with
  | nil => simp [filterFold]
  | cons x xs ih =>
    rw [filterFold, M.pure_bind, ih]
    cases h : q x <;> simp [Value.truthy, List.filter, h]

theorem mapFold_pure (g : Value → Value) (xs acc : List Value) (s : St Value) :
    mapFold (fun _ x => pure (g x)) xs acc s = (.ok (acc ++ xs.map g), s) := by
  induction xs generalizing acc with
  | nil => simp [mapFold]
  | cons x xs ih =>
    rw [mapFold, M.pure_bind, ih]
    simp

theorem allFold_pure (q : Value → Bool) (xs : List Value) (s : St Value) :
    allFold (fun x => pure (.bool (q x))) xs s = (.ok (.bool (xs.all q)), s) := by
  induction xs with
  | nil => simp [allFold]
  | cons x xs ih =>
    rw [allFold, M.pure_bind]
    cases h : q x <;> simp [Value.truthy, h, ih]

theorem existsFold_pure (q : Value → Bool) (xs : List Value) (s : St Value) :
    existsFold (fun _ x => pure (.bool (q x))) xs (.bool false) s =
      (.ok (.bool (xs.any q)), s) := by
  induction xs with
  | nil => simp [existsFold]
  | cons x xs ih =>
    rw [existsFold, M.pure_bind]
    cases h : q x <;> simp [Value.truthy, h, ih]

theorem countFold_pure (q : Value → Bool) (xs : List Value) (n : Int) (s : St Value) :
    countFold (fun _ x => pure (.bool (q x))) xs n s = (.ok (n + (xs.filter q).length), s) := by
  induction xs generalizing n with
  | nil => simp [countFold]
  | cons x xs ih =>
    rw [countFold, M.pure_bind, ih]
    cases h : q x <;> simp [Value.truthy, List.filter, h]
    omega

end Cel.Props.C10
