import CelModel.Lemmas.NumLemmas
import CelModel.Lemmas.Plain
/-!
# C08 — 64-bit integer arithmetic is exact or reports overflow

Statements are about `intArith` / `uintArith` / `intNeg` (the `(Int, Int)` and `(UInt, UInt)`
arms of `impl Add/Sub/Mul/Div/Rem for Value` and the unary minus arm of `resolve`) and about
`arith` on whole values, for **all** operands.
-/
namespace Cel.Props.C08

/-- the mathematical operation each operator denotes (truncating division, remainder with the
sign of the dividend) -/
def exact : ArithOp → Int → Int → Int
  | .add, a, b => a + b
  | .sub, a, b => a - b
  | .mul, a, b => a * b
  | .div, a, b => Int.tdiv a b
  | .rem, a, b => Int.tmod a b

theorem chk_some {inR : Int → Bool} {r : Int} (h : inR r = true) : chk inR r = some r := by
  simp [chk, h]
theorem chk_none {inR : Int → Bool} {r : Int} (h : inR r = false) : chk inR r = none := by
  simp [chk, h]

/-- the shape of every `+ - *` arm of `intArith` / `uintArith` and of `intNeg`: `r` when in range,
else the overflow error -/
def checked (inR : Int → Bool) (r : Int) : Outcome Int :=
  match chk inR r with | some r => .ok r | none => .err .overflow

theorem checked_spec (inR : Int → Bool) (r : Int) :
    (inR r = true ∧ checked inR r = .ok r) ∨ (inR r = false ∧ checked inR r = .err .overflow) := by
  cases h : inR r
  · exact .inr ⟨rfl, by rw [checked, chk_none h]⟩
  · exact .inl ⟨rfl, by rw [checked, chk_some h]⟩

theorem checked_eq_ok {inR : Int → Bool} {r q : Int} (h : checked inR r = .ok q) : q = r := by
  rcases checked_spec inR r with ⟨_, e⟩ | ⟨_, e⟩
  · rw [e] at h; cases h; rfl
  · rw [e] at h; cases h

theorem map_checked_spec {inR : Int → Bool} {r : Int} {f : Int → Value} :
    (inR r = true ∧ (checked inR r).map f = .ok (f r)) ∨
    (inR r = false ∧ (checked inR r).map f = .err .overflow) := by
  rcases checked_spec inR r with ⟨h1, h2⟩ | ⟨h1, h2⟩
  · exact .inl ⟨h1, by rw [h2]; rfl⟩
  · exact .inr ⟨h1, by rw [h2]; rfl⟩

theorem intArith_checked (op : ArithOp) (hop : op = .add ∨ op = .sub ∨ op = .mul) (a b : Int) :
    intArith op a b = checked inI64 (exact op a b) := by
  rcases hop with h | h | h <;> subst h <;> rfl

theorem uintArith_checked (op : ArithOp) (hop : op = .add ∨ op = .sub ∨ op = .mul) (a b : Int) :
    uintArith op a b = checked inU64 (exact op a b) := by
  rcases hop with h | h | h <;> subst h <;> rfl

/-- whole-value statement of the first clause: int operands under `+ - *` -/
theorem arith_int_exact_or_overflow (op : ArithOp) (hop : op = .add ∨ op = .sub ∨ op = .mul)
    (a b : Int) :
    (inI64 (exact op a b) = true ∧ arith op (.int a) (.int b) = .ok (.int (exact op a b))) ∨
    (inI64 (exact op a b) = false ∧ arith op (.int a) (.int b) = .err .overflow) := by
  rw [show arith op (.int a) (.int b) = (intArith op a b).map .int from rfl,
    intArith_checked op hop]
  exact map_checked_spec

theorem arith_uint_exact_or_overflow (op : ArithOp) (hop : op = .add ∨ op = .sub ∨ op = .mul)
    (a b : Int) :
    (inU64 (exact op a b) = true ∧ arith op (.uint a) (.uint b) = .ok (.uint (exact op a b))) ∨
    (inU64 (exact op a b) = false ∧ arith op (.uint a) (.uint b) = .err .overflow) := by
  rw [show arith op (.uint a) (.uint b) = (uintArith op a b).map .uint from rfl,
    uintArith_checked op hop]
  exact map_checked_spec

theorem inU64_iff (i : Int) : inU64 i = true ↔ (0 ≤ i ∧ i ≤ 18446744073709551615) :=
  Cel.inU64_iff i

theorem tdiv_inI64 (a b : Int) (ha : inI64 a = true) (hb0 : b ≠ 0)
    (hmin : ¬ (a = i64Min ∧ b = -1)) : inI64 (Int.tdiv a b) = true := by
  rw [inI64_iff] at *
  simp only [i64Min] at hmin
  by_cases h1 : b = 1
  · subst h1
    rw [Int.tdiv_one]
    exact ha
  by_cases h2 : b = -1
  · subst h2
    rw [Int.tdiv_neg, Int.tdiv_one]
    omega
  -- |b| ≥ 2, so |a / b| ≤ |a| / 2
  have hq : (Int.tdiv a b).natAbs ≤ a.natAbs / 2 := by
    rw [Int.natAbs_tdiv]
    exact Nat.div_le_div_left (by omega) (by omega)
  omega

/-- `/` on ints: zero divisor → division-by-zero error; `MIN / -1` → overflow; otherwise the
quotient truncated toward zero, which is always representable. -/
theorem int_div_spec (a b : Int) (ha : inI64 a = true) :
    (b = 0 → intArith .div a b = .err .div0) ∧
    (a = i64Min ∧ b = -1 → intArith .div a b = .err .overflow) ∧
    (b ≠ 0 → ¬ (a = i64Min ∧ b = -1) →
      intArith .div a b = .ok (Int.tdiv a b) ∧ inI64 (Int.tdiv a b) = true) := by
  refine ⟨?_, ?_, ?_⟩
  · intro h; simp [intArith, h]
  · rintro ⟨h1, h2⟩; subst h1 h2
    simp [intArith, chk, inI64, i64Min, i64Max]
  · intro hb hmin
    have hr := tdiv_inI64 a b ha hb hmin
    simp [intArith, hb, chk, hr]

/-- `%` on ints: zero divisor → remainder-by-zero error; `MIN % -1` → overflow (as in cel-go);
otherwise the remainder of truncating division. -/
theorem int_rem_spec (a b : Int) :
    (b = 0 → intArith .rem a b = .err .rem0) ∧
    (a = i64Min ∧ b = -1 → intArith .rem a b = .err .overflow) ∧
    (b ≠ 0 → ¬ (a = i64Min ∧ b = -1) → intArith .rem a b = .ok (Int.tmod a b)) := by
  refine ⟨?_, ?_, ?_⟩
  · intro h; simp [intArith, h]
  · rintro ⟨h1, h2⟩
    subst h1 h2
    simp [intArith, i64Min]
  · intro hb hmin; simp [intArith, hb, hmin]

theorem tmod_nonpos (a b : Int) (h : a ≤ 0) : Int.tmod a b ≤ 0 := by
  have hna : 0 ≤ -a := by omega
  have h0 : Int.tmod a b = -(Int.tmod (-a) b) := by rw [Int.neg_tmod, Int.neg_neg]
  have := Int.tmod_nonneg b hna
  omega

theorem tmod_inI64 (a b : Int) (ha : inI64 a = true) : inI64 (Int.tmod a b) = true := by
  rw [inI64_iff] at *
  have hle : (Int.tmod a b).natAbs ≤ a.natAbs := by
    rw [Int.natAbs_tmod]
    exact Nat.mod_le _ _
  rcases Int.le_total 0 a with h | h
  · have h1 := Int.tmod_nonneg b h
    omega
  · have h1 := tmod_nonpos a b h
    omega

/-- uint `/` and `%`: only a zero divisor is an error -/
theorem uint_div_rem_spec (a b : Int) :
    (b = 0 → uintArith .div a b = .err .div0 ∧ uintArith .rem a b = .err .rem0) ∧
    (b ≠ 0 → uintArith .div a b = .ok (Int.tdiv a b) ∧ uintArith .rem a b = .ok (Int.tmod a b)) := by
  constructor
  · intro h; simp [uintArith, h]
  · intro h; simp [uintArith, h]

theorem intArith_div_ok {a b q : Int} (h : intArith .div a b = .ok q) : b ≠ 0 ∧ q = Int.tdiv a b := by
  have e : intArith .div a b = if b = 0 then .err .div0 else checked inI64 (Int.tdiv a b) := rfl
  rw [e] at h
  split at h
  · cases h
  · exact ⟨‹_›, checked_eq_ok h⟩

theorem intArith_rem_ok {a b r : Int} (h : intArith .rem a b = .ok r) : b ≠ 0 ∧ r = Int.tmod a b := by
  simp only [intArith] at h
  split at h
  · cases h
  · split at h
    · cases h
    · cases h; exact ⟨‹_›, rfl⟩

/-- `(a/b)*b + a%b == a` whenever both are defined (ints) -/
theorem int_div_mul_add_rem (a b q r : Int) (hq : intArith .div a b = .ok q)
    (hr : intArith .rem a b = .ok r) : q * b + r = a := by
  rw [(intArith_div_ok hq).2, (intArith_rem_ok hr).2]
  exact Int.tdiv_mul_add_tmod a b

/-- the same identity for uints -/
theorem uint_div_mul_add_rem (a b q r : Int) (hq : uintArith .div a b = .ok q)
    (hr : uintArith .rem a b = .ok r) : q * b + r = a := by
  have hb : b ≠ 0 := by
    intro h
    subst h
    simp [uintArith] at hq
  simp only [uintArith, hb, if_false] at hq hr
  cases hq; cases hr
  exact Int.tdiv_mul_add_tmod a b

/-- the remainder takes the sign of the dividend -/
theorem int_rem_sign_of_dividend (a b r : Int) (hr : intArith .rem a b = .ok r) :
    (0 ≤ a → 0 ≤ r) ∧ (a ≤ 0 → r ≤ 0) := by
  rw [(intArith_rem_ok hr).2]
  exact ⟨Int.tmod_nonneg b, tmod_nonpos a b⟩

/-- division truncates toward zero: the quotient's magnitude is the floor of |a|/|b| -/
theorem int_div_truncates (a b q : Int) (hq : intArith .div a b = .ok q) :
    q.natAbs = a.natAbs / b.natAbs := by
  rw [(intArith_div_ok hq).2]
  exact Int.natAbs_tdiv a b

/-- unary minus: exact, or overflow exactly for the most negative int -/
theorem int_neg_exact_or_overflow (a : Int) (ha : inI64 a = true) :
    (a ≠ i64Min ∧ intNeg a = .ok (-a) ∧ inI64 (-a) = true) ∨
    (a = i64Min ∧ intNeg a = .err .overflow) := by
  by_cases h : a = i64Min
  · right; subst h; exact ⟨rfl, by decide⟩
  · left
    have hr : inI64 (-a) = true := by
      rw [inI64_iff] at *
      unfold i64Min at h
      omega
    exact ⟨h, by rw [show intNeg a = checked inI64 (-a) from rfl, checked, chk_some hr], hr⟩

def isNum : Value → Bool
  | .int _ => true | .uint _ => true | .dbl _ => true | _ => false

def sameKind : Value → Value → Bool
  | .int _, .int _ => true | .uint _, .uint _ => true | .dbl _, .dbl _ => true | _, _ => false

/-- mixing int, uint and double operands in arithmetic is an error, never a coercion -/
theorem mixed_numeric_arith_is_error (op : ArithOp) (a b : Value)
    (ha : isNum a = true) (hb : isNum b = true) (hk : sameKind a b = false) :
    arith op a b = .err .unsupportedOp := by
  -- nine numeric pairs are left; `hk` excludes the three of one kind
  cases a <;> try (cases ha; done)
  all_goals cases b <;> try (cases hb; done)
  all_goals first | exact rfl | cases hk

/-- the operator impls `Add`/`Sub`/`Mul`/`Div`/`Rem for Value` never panic, whatever the two operands:
every overflow, zero divisor and mismatch of kinds is an error -/
theorem arith_no_panic (op : ArithOp) (a b : Value) : (arith op a b).isPanic = false :=
  Outcome.plain.isPanic (Plain.arith op a b)

/-! ### non-vacuity: the hypotheses are met by concrete boundary operands -/
example : inI64 i64Max = true ∧ intArith .add i64Max 1 = .err .overflow := by decide
example : intArith .div i64Min (-1) = .err .overflow ∧ intArith .rem i64Min (-1) = .err .overflow := by
  decide
example : intArith .div (-7) 2 = .ok (-3) ∧ intArith .rem (-7) 2 = .ok (-1) := by decide
example : uintArith .sub 0 1 = .err .overflow ∧ uintArith .mul 4294967296 4294967296 = .err .overflow := by
  decide
example : intNeg i64Min = .err .overflow ∧ intNeg i64Max = .ok (-i64Max) := by decide

end Cel.Props.C08
