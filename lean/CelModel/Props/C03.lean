import CelModel.Props.C07
/-!
# C03 — evaluation of the core language follows the documented reference semantics

For this property the Lean evaluator *is* the reference semantics; the theorems below are the
named rules of the statement, proved of `eval` for all operands: operands left to right with the
first error aborting, checked 64-bit integer arithmetic (C08), null for an absent index.  Type
soundness for the typed fragment is in `Props/C03Types.lean`.
-/
namespace Cel.Props.C03

/-- `a op b` with `op` strict and `a` failing: the node yields that error in the state `a` left, so
nothing of `b` is evaluated -/
theorem binop_left_error_aborts (ctx : Ctx) (op : BinOp) (a b : Expr) (hs : op ≠ .and ∧ op ≠ .or)
    (st st1 : St Value) (e : ErrC) (h : eval ctx a (tickSt st) = (.err e, st1)) :
    eval ctx (.call op.name [a, b]) st = (.err e, st1) := by
  rw [C07.strict_binop_operands_once_in_order ctx op a b hs]
  rw [M.tick_bind, M.bind_err h]

/-- `a` succeeds and `b` fails: `b`'s error, in the state `b` left -/
theorem binop_right_error_aborts (ctx : Ctx) (op : BinOp) (a b : Expr) (hs : op ≠ .and ∧ op ≠ .or)
    (st st1 st2 : St Value) (l : Value) (e : ErrC)
    (h1 : eval ctx a (tickSt st) = (.ok l, st1)) (h2 : eval ctx b st1 = (.err e, st2)) :
    eval ctx (.call op.name [a, b]) st = (.err e, st2) := by
  rw [C07.strict_binop_operands_once_in_order ctx op a b hs]
  rw [M.tick_bind, M.bind_ok h1, M.bind_err h2]

/-- both succeed: the operator impl of `Value` applied to the two values, in the state `b` left -/
theorem binop_applies_operator (ctx : Ctx) (op : BinOp) (a b : Expr) (hs : op ≠ .and ∧ op ≠ .or)
    (st st1 st2 : St Value) (l r : Value)
    (h1 : eval ctx a (tickSt st) = (.ok l, st1)) (h2 : eval ctx b st1 = (.ok r, st2)) :
    eval ctx (.call op.name [a, b]) st = (applyBin op l r, st2) := by
  rw [C07.strict_binop_operands_once_in_order ctx op a b hs]
  rw [M.tick_bind, M.bind_ok h1, M.bind_ok h2]
  rfl

/-- `[e, …]` with `e` failing: that error in the state `e` left, so no later element is evaluated -/
theorem list_first_error_aborts (ctx : Ctx) (e : Expr) (es : List Expr) (st st1 : St Value)
    (err : ErrC) (h : eval ctx e (tickSt st) = (.err err, st1)) :
    eval ctx (.list (e :: es)) st = (.err err, st1) := by
  rw [C07.list_literal_in_order]
  rw [M.tick_bind, M.bind_err h]

/-- a negative index or one beyond the end gives `null`, not an error -/
theorem list_index_spec (xs : List Value) (i : Int) :
    indexOp (.list xs) (.int i) =
      .ok (if h : 0 ≤ i ∧ i.toNat < xs.length then xs[i.toNat]'h.2 else .null) := by
  unfold indexOp
  by_cases h0 : 0 ≤ i
  · by_cases h1 : i.toNat < xs.length
    · simp [h0, h1]
    · simp [h0, h1]
  · simp [h0]

/-- `m[k]` with `k` absent is `null`, not an error (`.unwrap_or(Value::Null)` in the `INDEX` arm of
`Value::resolve`) -/
theorem map_index_absent_is_null (m : MapV) (k : Key) (h : MapV.get m k = none) :
    indexOp (.map m) k.toValue = .ok .null := by
  cases k <;> simp [indexOp, Key.toValue, h]

theorem map_index_present_is_value (m : MapV) (k : Key) (v : Value) (h : MapV.get m k = some v) :
    indexOp (.map m) k.toValue = .ok v := by
  cases k <;> simp [indexOp, Key.toValue, h]

/-- arithmetic of `Value` on two ints is `intArith`, the checked operations C08 specifies; the same
for uints below -/
theorem int_arith_is_checked (op : ArithOp) (a b : Int) :
    arith op (.int a) (.int b) = (intArith op a b).map .int := by
  cases op <;> rfl

theorem uint_arith_is_checked (op : ArithOp) (a b : Int) :
    arith op (.uint a) (.uint b) = (uintArith op a b).map .uint := by
  cases op <;> rfl

/-- holds of any function: in the model a result depends on context, tree and start state only.
The iteration order of a Rust `HashMap` is not modelled: a `MapV` carries its entries in the order it
is handed over -/
theorem eval_deterministic (ctx : Ctx) (e : Expr) (st : St Value) (r1 r2 : Outcome Value × St Value)
    (h1 : eval ctx e st = r1) (h2 : eval ctx e st = r2) : r1 = r2 := by
  rw [← h1, ← h2]

/-- an identifier is what `Context::get_variable` resolves it to; an unresolved one is the
`UndeclaredReference` error naming it -/
theorem ident_lookup (ctx : Ctx) (n : String) (st : St Value) :
    eval ctx (.ident n) st =
      match ctx.getVariable n with
      | some v => (.ok v, tickSt st)
      | none => (.err (.undeclared n), tickSt st) := by
  rw [eval_ident, M.tick_bind]
  cases ctx.getVariable n <;> rfl

example : indexOp (.list [.int 7, .int 8]) (.int 1) = .ok (.int 8) := by
  rw [list_index_spec]; rfl
example : indexOp (.list [.int 7, .int 8]) (.int (-1)) = .ok .null := by
  rw [list_index_spec]; rfl
example : indexOp (.list [.int 7]) (.int 9223372036854775807) = .ok .null := by
  rw [list_index_spec]; rfl

end Cel.Props.C03
