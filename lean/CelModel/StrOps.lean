import CelModel.Value
/-!
# String and byte-string primitives of Rust `std` used by the built-ins
-/
namespace Cel

/-- `char::encode_utf8` -/
def utf8Encode (c : Char) : List UInt8 :=
  let n := c.toNat
  if n < 0x80 then [n.toUInt8]
  else if n < 0x800 then [(0xC0 + n / 64).toUInt8, (0x80 + n % 64).toUInt8]
  else if n < 0x10000 then
    [(0xE0 + n / 4096).toUInt8, (0x80 + n / 64 % 64).toUInt8, (0x80 + n % 64).toUInt8]
  else
    [(0xF0 + n / 262144).toUInt8, (0x80 + n / 4096 % 64).toUInt8, (0x80 + n / 64 % 64).toUInt8,
     (0x80 + n % 64).toUInt8]

/-- `str::as_bytes` -/
def strToBytes : Str → List UInt8
  | [] => []
  | c :: cs => utf8Encode c ++ strToBytes cs

def hexDigitChar (n : Nat) : Char := if n < 10 then Char.ofNat (48 + n) else Char.ofNat (87 + n)
/-- `x` followed by the hex digits of the UTF-8 encoding (wire format of strings) -/
def hexOfStr (s : Str) : String :=
  String.ofList ('x' :: (strToBytes s).foldr (fun b acc =>
    hexDigitChar (b.toNat / 16) :: hexDigitChar (b.toNat % 16) :: acc) [])

def isCont (b : UInt8) : Bool := 0x80 ≤ b && b ≤ 0xBF
def replacement : Char := Char.ofNat 0xFFFD

/-- `String::from_utf8_lossy`: every maximal ill-formed subpart becomes U+FFFD -/
def utf8Lossy : (fuel : Nat) → List UInt8 → Str
  | 0, _ => []
  | _, [] => []
  | fuel + 1, b :: rest =>
    let n := b.toNat
    if n < 0x80 then Char.ofNat n :: utf8Lossy fuel rest
    else if 0xC2 ≤ n && n ≤ 0xDF then
      match rest with
      | b1 :: r1 => if isCont b1 then Char.ofNat ((n - 0xC0) * 64 + (b1.toNat - 0x80)) :: utf8Lossy fuel r1
                    else replacement :: utf8Lossy fuel rest
      | [] => [replacement]
    else if 0xE0 ≤ n && n ≤ 0xEF then
      let lo : Nat := if n == 0xE0 then 0xA0 else 0x80
      let hi : Nat := if n == 0xED then 0x9F else 0xBF
      match rest with
      | b1 :: r1 =>
        if lo ≤ b1.toNat && b1.toNat ≤ hi then
          match r1 with
          | b2 :: r2 =>
            if isCont b2 then
              Char.ofNat ((n - 0xE0) * 4096 + (b1.toNat - 0x80) * 64 + (b2.toNat - 0x80)) :: utf8Lossy fuel r2
            else replacement :: utf8Lossy fuel r1
          | [] => [replacement]
        else replacement :: utf8Lossy fuel rest
      | [] => [replacement]
    else if 0xF0 ≤ n && n ≤ 0xF4 then
      let lo : Nat := if n == 0xF0 then 0x90 else 0x80
      let hi : Nat := if n == 0xF4 then 0x8F else 0xBF
      match rest with
      | b1 :: r1 =>
        if lo ≤ b1.toNat && b1.toNat ≤ hi then
          match r1 with
          | b2 :: r2 =>
            if isCont b2 then
              match r2 with
              | b3 :: r3 =>
                if isCont b3 then
                  Char.ofNat ((n - 0xF0) * 262144 + (b1.toNat - 0x80) * 4096 + (b2.toNat - 0x80) * 64
                    + (b3.toNat - 0x80)) :: utf8Lossy fuel r3
                else replacement :: utf8Lossy fuel r2
              | [] => [replacement]
            else replacement :: utf8Lossy fuel r1
          | [] => [replacement]
        else replacement :: utf8Lossy fuel rest
      | [] => [replacement]
    else replacement :: utf8Lossy fuel rest

def bytesToStrLossy (b : List UInt8) : Str := utf8Lossy (b.length + 1) b

/-- `str::starts_with` / `slice::starts_with`: prefix test -/
def isPrefixOf [BEq α] : List α → List α → Bool
  | [], _ => true
  | _ :: _, [] => false
  | a :: as, b :: bs => a == b && isPrefixOf as bs

/-- `str::contains(&str)` / `windows(n).any(..)`: contiguous sub-list test -/
def isInfixOf [BEq α] (needle : List α) : List α → Bool
  | [] => needle.isEmpty
  | b :: bs => isPrefixOf needle (b :: bs) || isInfixOf needle bs

def isSuffixOf [BEq α] (suffix l : List α) : Bool := isPrefixOf suffix.reverse l.reverse

/-- `str.get(idx..idx+1)`: the one-byte character starting at byte offset `idx`, if any -/
def strByteAt : Str → Nat → Option Char
  | [], _ => none
  | c :: cs, 0 => if utf8Len c == 1 then some c else none
  | c :: cs, idx + 1 => if utf8Len c ≤ idx + 1 then strByteAt cs (idx + 1 - utf8Len c) else none

/-- `str::parse::<i64>()` / `::<u64>()`: optional sign, one or more ASCII digits -/
def parseIntText (allowMinus : Bool) (s : Str) : Option Int :=
  let (neg, body) := match s with
    | '-' :: r => (true, r)
    | '+' :: r => (false, r)
    | r => (false, r)
  if neg && !allowMinus then none
  else if body.isEmpty || !body.all (fun c => '0' ≤ c && c ≤ '9') then none
  else
    let n : Nat := body.foldl (fun n c => n * 10 + (c.toNat - 48)) 0
    some (if neg then -(n : Int) else n)

end Cel
