import CelModel.Num
/-!
# IEEE-754 binary64 as the interpreter uses it

A double is its 64-bit pattern.  Everything the properties reason about (comparison with
integers, truncation, int → double rounding) is defined on the *decoded* value with integer
arithmetic only, so it is computable and provable.  `+ - * /` on doubles are delegated to Lean's
native `Float` (hardware doubles on both sides; no theorem depends on their values).  Shortest
round-trip printing and correctly-rounded decimal parsing (Rust's `Display`/`FromStr` for `f64`)
are re-implemented with exact `Nat` arithmetic; that they agree with Rust's `std` is *not proved*
but left to the correspondence check (what is proved about them: `Props/C13c`, `Props/C13d`).
-/
namespace Cel
namespace F64

/-- decoded double: value = (-1)^neg * m * 2^e; finite case has m < 2^53, -1074 ≤ e ≤ 971 -/
inductive D where
  | nan
  | inf (neg : Bool)
  | fin (neg : Bool) (m : Nat) (e : Int)
deriving Repr, DecidableEq, Inhabited

def decodeNat (bits : Nat) : D :=
  let neg := bits / 2^63 % 2 == 1
  let ex : Nat := bits / 2^52 % 2^11
  let fr : Nat := bits % 2^52
  if ex == 2047 then (if fr == 0 then .inf neg else .nan)
  else if ex == 0 then .fin neg fr (-1074)
  else .fin neg (fr + 2^52) ((ex : Int) - 1075)

def decode (bits : UInt64) : D := decodeNat bits.toNat

def isNaN (bits : UInt64) : Bool := match decode bits with | .nan => true | _ => false
def isFinite (bits : UInt64) : Bool := match decode bits with | .fin .. => true | _ => false

def nanBits : UInt64 := 0x7ff8000000000000
def posInfBits : UInt64 := 0x7ff0000000000000
def negInfBits : UInt64 := 0xfff0000000000000
def signBit : UInt64 := 0x8000000000000000

/-- all NaNs are one value for the purposes of comparison of outputs -/
def canon (bits : UInt64) : UInt64 := if isNaN bits then nanBits else bits

/-- extended integers: the exact value of a number scaled by 2^1074, or ±∞ -/
inductive EInt where
  | negInf | fin (z : Int) | posInf
deriving Repr, DecidableEq, Inhabited

def EInt.cmp : EInt → EInt → Ordering
  | .negInf, .negInf => .eq
  | .negInf, _ => .lt
  | _, .negInf => .gt
  | .posInf, .posInf => .eq
  | .posInf, _ => .gt
  | _, .posInf => .lt
  | .fin a, .fin b => compare a b

@[inline] def sgn (neg : Bool) (n : Int) : Int := if neg then -n else n

def scale : Nat := 1074
/-- 2^1074, kept behind a definition so that `simp` never tries to evaluate it -/
def twoScale : Int := 2 ^ scale

/-- exact value scaled by 2^1074 (every finite double is an integer multiple of 2^-1074) -/
def keyD : D → Option EInt
  | .nan => none
  | .inf neg => some (if neg then .negInf else .posInf)
  | .fin neg m e => some (.fin (sgn neg ((m : Int) * 2 ^ (e + 1074).toNat)))

def keyI (i : Int) : EInt := .fin (i * twoScale)

/-- magnitude of the truncation toward zero of m·2^e -/
def truncMag (m : Nat) (e : Int) : Nat := if e ≥ 0 then m * 2 ^ e.toNat else m / 2 ^ (-e).toNat
def fracNonzero (m : Nat) (e : Int) : Bool := if e ≥ 0 then false else m % 2 ^ (-e).toNat != 0

/-- `f64::partial_cmp` -/
def cmpDD (a b : D) : Option Ordering :=
  match keyD a, keyD b with
  | some x, some y => some (EInt.cmp x y)
  | _, _ => none

/-- Comparison of an integer (i64 or u64 range) with a double, shaped like the Rust helper:
NaN → none; otherwise compare `i` with `trunc f`, and on a tie let the fraction decide. -/
def cmpIntD (i : Int) : D → Option Ordering
  | .nan => none
  | .inf neg => some (if neg then .gt else .lt)
  | .fin neg m e =>
    let t : Int := sgn neg (truncMag m e)
    match compare i t with
    | .lt => some .lt
    | .gt => some .gt
    | .eq => if fracNonzero m e then (if neg then some .gt else some .lt) else some .eq

/-- `f as i64` / `f as u64` preceded by the range test: truncation toward zero of a finite value -/
def truncToInt : D → Option Int
  | .fin neg m e => some (sgn neg (truncMag m e))
  | _ => none

/-! ### encoding: round-to-nearest-even of an exact rational `num / den` -/

/-- bits of the positive finite double nearest to `num/den` (ties to even); `none` on overflow
to infinity. `den > 0`. -/
def roundRatPos (num den : Nat) : Option Nat :=
  if num == 0 then some 0 else
  -- choose sh with q = floor(num * 2^sh / den) having at least 55 significant bits
  let ln := Nat.log2 num
  let ld := Nat.log2 den
  let shI : Int := 56 - (ln : Int) + (ld : Int)
  let (n', d') : Nat × Nat := if shI ≥ 0 then (num * 2 ^ shI.toNat, den) else (num, den * 2 ^ (-shI).toNat)
  let q := n' / d'
  let sticky := n' % d' != 0
  -- value = (q + sticky·ε) · 2^(-shI); q has 55..57 bits
  let qb := Nat.log2 q   -- top bit index
  -- exponent of the top bit of the value
  let topE : Int := (qb : Int) - shI
  -- target: 53-bit mantissa with lsb exponent  le = max (topE - 52) (-1074)
  let le : Int := if topE - 52 ≥ -1074 then topE - 52 else -1074
  -- drop = number of low bits of q to discard = le + shI  (≥ 2 by construction)
  let drop : Nat := (le + shI).toNat
  let keep := q / 2 ^ drop
  let rest := q % 2 ^ drop
  let half := 2 ^ (drop - 1)
  let up : Bool := rest > half || (rest == half && (sticky || keep % 2 == 1))
  let mant := if up then keep + 1 else keep
  -- mant < 2^53 + 1; renormalise
  let (mant, le) := if mant == 2 ^ 53 then (2 ^ 52, le + 1) else (mant, le)
  if mant < 2 ^ 52 then
    -- subnormal (le = -1074) or zero
    some mant
  else
    let ex : Int := le + 1075
    if ex ≥ 2047 then none else some (ex.toNat * 2 ^ 52 + (mant - 2 ^ 52))

def ofRat (neg : Bool) (num den : Nat) : UInt64 :=
  let mag := match roundRatPos num den with
    | some b => b
    | none => 0x7ff0000000000000
  UInt64.ofNat (mag + (if neg then 2 ^ 63 else 0))

/-- `i as f64` (i64 or u64): nearest double, ties to even -/
def ofInt (i : Int) : UInt64 := ofRat (i < 0) i.natAbs 1

/-! ### native arithmetic (opaque to the theorems) -/
def toFloat (b : UInt64) : Float := Float.ofBits b
def add (a b : UInt64) : UInt64 := canon (toFloat a + toFloat b).toBits
def sub (a b : UInt64) : UInt64 := canon (toFloat a - toFloat b).toBits
def mul (a b : UInt64) : UInt64 := canon (toFloat a * toFloat b).toBits
def div (a b : UInt64) : UInt64 := canon (toFloat a / toFloat b).toBits
def neg (a : UInt64) : UInt64 := a ^^^ signBit

/-! ### shortest round-trip printing (Rust `impl Display for f64`) -/

def digitChar (d : Nat) : Char := Char.ofNat (48 + d)

/-- Burger–Dybvig free-format digit generation; returns digits (most significant first).
State: r/s is the remaining value, mp/mm the distances to the upper/lower neighbour midpoints. -/
def genDigits (fuel : Nat) (r s mp mm : Nat) (lowOk highOk : Bool) (acc : List Nat) : List Nat :=
  match fuel with
  | 0 => acc.reverse
  | fuel + 1 =>
    let d := r / s
    let r := r % s
    let tc1 := if lowOk then r ≤ mm else r < mm
    let tc2 := if highOk then r + mp ≥ s else r + mp > s
    if !tc1 then
      if !tc2 then genDigits fuel (r * 10) s (mp * 10) (mm * 10) lowOk highOk (d :: acc)
      else ((d + 1) :: acc).reverse
    else if !tc2 then (d :: acc).reverse
    else
      -- both candidates are in the rounding interval: take the closer one; on an exact tie Rust's
      -- flt2dec rounds up (`mant * 2 >= scale`), e.g. …000.25 prints as …000.3
      if r * 2 < s then (d :: acc).reverse
      else ((d + 1) :: acc).reverse

/-- scale so that the first generated digit is the leading one; returns (k, digits) with
value = 0.d₁d₂… × 10^k -/
def shortestDigits (m : Nat) (e : Int) : Int × List Nat :=
  let even := m % 2 == 0
  let boundary := m == 2 ^ 52 && e > -1074
  -- r/s = value, mp/s = half gap above, mm/s = half gap below
  let (r, s, mp, mm) : Nat × Nat × Nat × Nat :=
    if e ≥ 0 then
      let be := 2 ^ e.toNat
      if !boundary then (m * be * 2, 2, be, be) else (m * be * 4, 4, be * 2, be)
    else
      let be := 2 ^ (-e).toNat
      if !boundary then (m * 2, be * 2, 1, 1) else (m * 4, be * 4, 2, 1)
  -- find k: smallest with (r + mp) / s  <(=) 10^k
  let rec up (fuel : Nat) (s : Nat) (k : Int) : Nat × Int :=
    match fuel with
    | 0 => (s, k)
    | fuel + 1 =>
      let tooLow := if even then r + mp ≥ s else r + mp > s
      if tooLow then up fuel (s * 10) (k + 1) else (s, k)
  let rec down (fuel : Nat) (r mp mm : Nat) (s : Nat) (k : Int) : Nat × Nat × Nat × Int :=
    match fuel with
    | 0 => (r, mp, mm, k)
    | fuel + 1 =>
      let tooLow := if even then (r + mp) * 10 ≥ s else (r + mp) * 10 > s
      if tooLow then (r, mp, mm, k) else down fuel (r * 10) (mp * 10) (mm * 10) s (k - 1)
  let (s, k) := up 400 s 0
  let (r, mp, mm, k) := down 400 r mp mm s k
  (k, genDigits 800 (r * 10) s (mp * 10) (mm * 10) even even [])

/-- Rust's `{}` for f64: `NaN`, `inf`, `-inf`, otherwise shortest digits without exponent. -/
def fmt (bits : UInt64) : List Char :=
  match decode bits with
  | .nan => "NaN".toList
  | .inf neg => (if neg then "-inf" else "inf").toList
  | .fin neg m e =>
    let sign := if neg then ['-'] else []
    if m == 0 then sign ++ ['0'] else
    let (k, ds) := shortestDigits m e
    let n := ds.length
    let cs := ds.map digitChar
    if k ≤ 0 then sign ++ ['0', '.'] ++ List.replicate (-k).toNat '0' ++ cs
    else if k.toNat ≥ n then sign ++ cs ++ List.replicate (k.toNat - n) '0'
    else sign ++ cs.take k.toNat ++ ['.'] ++ cs.drop k.toNat

/-! ### decimal parsing (Rust `impl FromStr for f64`) -/

def isDigit (c : Char) : Bool := '0' ≤ c && c ≤ '9'
def digitVal (c : Char) : Nat := c.toNat - 48

def takeDigits : List Char → List Char × List Char
  | c :: cs => if isDigit c then let (a, b) := takeDigits cs; (c :: a, b) else ([], c :: cs)
  | [] => ([], [])

def digitsToNat (cs : List Char) : Nat := cs.foldl (fun n c => n * 10 + digitVal c) 0

def lower (cs : List Char) : List Char := cs.map Char.toLower

/-- `str::parse::<f64>()`; `none` = parse error -/
def parse (s : List Char) : Option UInt64 :=
  let (neg, body) := match s with
    | '-' :: r => (true, r)
    | '+' :: r => (false, r)
    | r => (false, r)
  let lb := lower body
  if lb == "inf".toList || lb == "infinity".toList then some (if neg then negInfBits else posInfBits)
  else if lb == "nan".toList then some nanBits
  else
    let (ip, r1) := takeDigits body
    let (fp, r2, hadDot) := match r1 with
      | '.' :: r => let (f, r') := takeDigits r; (f, r', true)
      | r => ([], r, false)
    let _ := hadDot
    if ip.isEmpty && fp.isEmpty then none else
    let expPart : Option (Int × List Char) := match r2 with
      | c :: r =>
        if c == 'e' || c == 'E' then
          let (eneg, r') := match r with
            | '-' :: t => (true, t)
            | '+' :: t => (false, t)
            | t => (false, t)
          let (ed, r'') := takeDigits r'
          if ed.isEmpty then none else
          -- clamp huge exponents: anything beyond ±10^7 behaves the same for mantissas of up to
          -- 10^6 digits (leading zeros of the exponent do not count: `1e0000000001` is 10)
          let edSig := ed.dropWhile (· == '0')
          let ev := if edSig.length > 7 then 10000000 else digitsToNat edSig
          some ((if eneg then -(ev : Int) else (ev : Int)), r'')
        else some (0, c :: r)
      | [] => some (0, [])
    match expPart with
    | none => none
    | some (ex, rest) =>
      if !rest.isEmpty then none else
      let digs := ip ++ fp
      let mant := digitsToNat digs
      let e10 : Int := ex - (fp.length : Int)
      if mant == 0 then some (if neg then signBit else 0) else
      -- magnitude: 10^(sig - 1 + e10) ≤ value < 10^(sig + e10) ≤ 10^(len + e10), where `sig`
      -- counts the digits from the first non-zero one and `len` all of them; clamp far-away
      -- cases (everything in between is computed exactly)
      let magHi : Int := ((digs.dropWhile (· == '0')).length : Int) + e10
      let magLo : Int := (digs.length : Int) + e10
      if magHi > 330 then some (if neg then negInfBits else posInfBits)
      else if magLo < -400 then some (if neg then signBit else 0)
      else if e10 ≥ 0 then some (ofRat neg (mant * 10 ^ e10.toNat) 1)
      else some (ofRat neg mant (10 ^ (-e10).toNat))

end F64
end Cel
