import CelModel.Value
import CelModel.Time
import CelModel.StrOps
/-!
# Host data → CEL values (`interpreter/src/ser.rs`) and CEL values → JSON (`json.rs`)

`Data` has one constructor per method of serde's `Serializer` interface (integer widths are
collapsed into signed / unsigned, `f32` is widened exactly as `f64::from` does), plus the two
wrapper types `cel_interpreter::Duration` / `Timestamp`.  `serdeJson` models what
`serde_json::to_value` does with the same data (third-party, modelled).
-/
namespace Cel
namespace Serde

inductive Data where
  | bool (b : Bool)
  | int (i : Int)                 -- serialize_i8 … serialize_i64
  | uint (n : Int)                -- serialize_u8 … serialize_u64
  | wide                          -- serialize_i128 / serialize_u128 (not supported by either side's defaults here)
  | float (bits : UInt64)         -- serialize_f32 (widened) / serialize_f64
  | char (c : Char)
  | str (s : Str)
  | bytes (b : List UInt8)
  | none
  | some (d : Data)
  | unit
  | unitStruct (name : String)
  | unitVariant (name variant : String)
  | newtypeStruct (name : String) (d : Data)
  | newtypeVariant (name variant : String) (d : Data)
  | seq (ds : List Data)
  | tuple (ds : List Data)
  | tupleStruct (name : String) (ds : List Data)
  | tupleVariant (name variant : String) (ds : List Data)
  | map (entries : List (Data × Data))
  | struct (name : String) (fields : List (String × Data))
  | structVariant (name variant : String) (fields : List (String × Data))
  | celDuration (ns : Int)        -- `cel_interpreter::Duration(d)`
  | celTimestamp (utcNs offset : Int)   -- `cel_interpreter::Timestamp(t)`
deriving Repr, Inhabited

inductive SerErr where
  | invalidKey | serdeError
deriving Repr, DecidableEq, Inhabited

/-- `KeySerializer`: int, uint, bool, string-like, transparently through `Some` and newtype
structs; everything else is an `InvalidKey` error -/
def keyOf : Data → Except SerErr Key
  | .bool b => .ok (.bool b)
  | .int i => .ok (.int i)
  | .uint n => .ok (.uint n)
  | .char c => .ok (.str [c])
  | .str s => .ok (.str s)
  | .unitVariant _ v => .ok (.str v.toList)
  | .some d => keyOf d
  | .newtypeStruct _ d => keyOf d
  | .wide => .error .serdeError
  | .celDuration _ => .error .invalidKey     -- newtype struct around a struct
  | .celTimestamp _ _ => .error .invalidKey  -- newtype struct around chrono's `DateTime`, which serialises as its ISO 8601 text
  | _ => .error .invalidKey

mutual
/-- `Serializer` -/
def toValue : Data → Except SerErr Value
  | .bool b => .ok (.bool b)
  | .int i => .ok (.int i)
  | .uint n => .ok (.uint n)
  | .wide => .error .serdeError
  | .float b => .ok (.dbl b)
  | .char c => .ok (.str [c])
  | .str s => .ok (.str s)
  | .bytes b => .ok (.bytes b)
  | .none => .ok .null
  | .some d => toValue d
  | .unit => .ok .null
  | .unitStruct _ => .ok .null
  | .unitVariant _ v => .ok (.str v.toList)
  | .newtypeStruct _ d => toValue d
  | .newtypeVariant _ v d =>
    match toValue d with
    | .ok x => .ok (.map [(.str v.toList, x)])
    | .error e => .error e
  | .seq ds => (toValues ds).map .list
  | .tuple ds => (toValues ds).map .list
  | .tupleStruct _ ds => (toValues ds).map .list
  | .tupleVariant _ v ds =>
    match toValues ds with
    | .ok xs => .ok (.map [(.str v.toList, .list xs)])
    | .error e => .error e
  | .map es => (toEntries es []).map .map
  | .struct _ fs => (toFields fs []).map .map
  | .structVariant _ v fs =>
    match toFields fs [] with
    | .ok m => .ok (.map [(.str v.toList, .map m)])
    | .error e => .error e
  | .celDuration ns => .ok (.dur ns)
  | .celTimestamp t o => .ok (.ts t o)
def toValues : List Data → Except SerErr (List Value)
  | [] => .ok []
  | d :: ds =>
    match toValue d with
    | .error e => .error e
    | .ok v =>
      match toValues ds with
      | .error e => .error e
      | .ok vs => .ok (v :: vs)
/-- map entries in order: key first (through `KeySerializer`), then value; later duplicates
overwrite -/
def toEntries : List (Data × Data) → MapV → Except SerErr MapV
  | [], acc => .ok acc
  | (k, v) :: rest, acc =>
    match keyOf k with
    | .error e => .error e
    | .ok key =>
      match toValue v with
      | .error e => .error e
      | .ok x => toEntries rest (MapV.insert acc key x)
def toFields : List (String × Data) → MapV → Except SerErr MapV
  | [], acc => .ok acc
  | (f, v) :: rest, acc =>
    match toValue v with
    | .error e => .error e
    | .ok x => toFields rest (MapV.insert acc (.str f.toList) x)
end

/-! ## JSON -/

inductive Json where
  | null
  | bool (b : Bool)
  | int (i : Int)          -- serde_json `Number`: i64 / u64 range
  | float (bits : UInt64)  -- finite
  | str (s : Str)
  | arr (xs : List Json)
  | obj (fields : List (Str × Json))   -- later duplicates overwrite; compared order-insensitively
deriving Repr, Inhabited

def objInsert : List (Str × Json) → Str → Json → List (Str × Json)
  | [], k, v => [(k, v)]
  | (k', v') :: rest, k, v => if k' = k then (k, v) :: rest else (k', v') :: objInsert rest k v

/-- standard base64 alphabet with padding (`BASE64_STANDARD`) -/
def b64Char (n : Nat) : Char :=
  if n < 26 then Char.ofNat (65 + n) else if n < 52 then Char.ofNat (71 + n)
  else if n < 62 then Char.ofNat (n - 4) else if n == 62 then '+' else '/'

def base64 : List UInt8 → Str
  | [] => []
  | [a] =>
    let n := a.toNat
    [b64Char (n / 4), b64Char (n % 4 * 16), '=', '=']
  | [a, b] =>
    let n := a.toNat * 256 + b.toNat
    [b64Char (n / 1024), b64Char (n / 16 % 64), b64Char (n % 16 * 4), '=']
  | a :: b :: c :: rest =>
    let n := a.toNat * 65536 + b.toNat * 256 + c.toNat
    b64Char (n / 262144) :: b64Char (n / 4096 % 64) :: b64Char (n / 64 % 64) :: b64Char (n % 64) :: base64 rest

inductive JsonErr where
  | value | durationOverflow
deriving Repr, DecidableEq, Inhabited

mutual
/-- `Value::json` -/
def toJson : Value → Except JsonErr Json
  | .list xs => (toJsons xs).map .arr
  | .map m => (toJsonEntries m []).map .obj
  | .int i => .ok (.int i)
  | .uint n => .ok (.int n)
  | .dbl b => .ok (if F64.isFinite b then .float b else .null)
  | .str s => .ok (.str s)
  | .bool b => .ok (.bool b)
  | .bytes b => .ok (.str (base64 b))
  | .null => .ok .null
  | .ts t o => .ok (.str (Time.format t o))
  | .dur ns => if inI64 ns then .ok (.int ns) else .error .durationOverflow
  | .fn _ _ => .error .value
def toJsons : List Value → Except JsonErr (List Json)
  | [] => .ok []
  | v :: vs =>
    match toJson v with
    | .error e => .error e
    | .ok j =>
      match toJsons vs with
      | .error e => .error e
      | .ok js => .ok (j :: js)
def toJsonEntries : List (Key × Value) → List (Str × Json) → Except JsonErr (List (Str × Json))
  | [], acc => .ok acc
  | (k, v) :: rest, acc =>
    match toJson v with
    | .error e => .error e
    | .ok j => toJsonEntries rest (objInsert acc k.toText j)
end

mutual
/-- importing a JSON document: `to_value(&serde_json::Value)` -/
def fromJson : Json → Value
  | .null => .null
  | .bool b => .bool b
  | .int i => if i < 0 then .int i else .uint i     -- serde_json serialises non-negative numbers as u64
  | .float b => .dbl b
  | .str s => .str s
  | .arr xs => .list (fromJsons xs)
  | .obj fs => .map (fromJsonFields fs [])
def fromJsons : List Json → List Value
  | [] => []
  | j :: js => fromJson j :: fromJsons js
def fromJsonFields : List (Str × Json) → MapV → MapV
  | [], acc => acc
  | (k, j) :: rest, acc => fromJsonFields rest (MapV.insert acc (.str k) (fromJson j))
end

/-- key text `serde_json`'s map-key serializer produces; `none` = "key must be a string" -/
def jsonKeyOf : Data → Option Str
  | .str s => some s
  | .char c => some [c]
  | .bool b => some (if b then "true".toList else "false".toList)
  | .int i => some (intToDec i)
  | .uint n => some (intToDec n)
  | .unitVariant _ v => some v.toList
  | .newtypeStruct _ d => jsonKeyOf d
  -- finite float keys are rendered as text (serde_json uses ryu; for the values the generator
  -- uses this coincides with Rust's `Display`)
  | .float b => if F64.isFinite b then some (F64.fmt b) else none
  | _ => none

mutual
/-- `serde_json::to_value` on the same data; `none` = serde_json reports an error -/
def serdeJson : Data → Option Json
  | .bool b => some (.bool b)
  | .int i => some (.int i)
  | .uint n => some (.int n)
  | .wide => none
  | .float b => some (if F64.isFinite b then .float b else .null)
  | .char c => some (.str [c])
  | .str s => some (.str s)
  | .bytes b => some (.arr (b.map (fun x => .int x.toNat)))
  | .none => some .null
  | .some d => serdeJson d
  | .unit => some .null
  | .unitStruct _ => some .null
  | .unitVariant _ v => some (.str v.toList)
  | .newtypeStruct _ d => serdeJson d
  | .newtypeVariant _ v d => (serdeJson d).map (fun j => .obj [(v.toList, j)])
  | .seq ds => (serdeJsons ds).map .arr
  | .tuple ds => (serdeJsons ds).map .arr
  | .tupleStruct _ ds => (serdeJsons ds).map .arr
  | .tupleVariant _ v ds => (serdeJsons ds).map (fun js => .obj [(v.toList, .arr js)])
  | .map es => (serdeJsonEntries es []).map .obj
  | .struct _ fs => (serdeJsonFields fs []).map .obj
  | .structVariant _ v fs => (serdeJsonFields fs []).map (fun o => .obj [(v.toList, .obj o)])
  -- not JSON-native: serde_json renders the wrapper struct / chrono's ISO 8601 text
  | .celDuration ns =>
    some (.obj [("secs".toList, .int (Int.tdiv ns 1000000000)), ("nanos".toList, .int (Int.tmod ns 1000000000))])
  | .celTimestamp t o =>
    some (.str (if o == 0 then (Time.format t o).dropLast.dropLast.dropLast.dropLast.dropLast.dropLast ++ ['Z']
                else Time.format t o))
def serdeJsons : List Data → Option (List Json)
  | [] => some []
  | d :: ds =>
    match serdeJson d, serdeJsons ds with
    | some j, some js => some (j :: js)
    | _, _ => none
def serdeJsonEntries : List (Data × Data) → List (Str × Json) → Option (List (Str × Json))
  | [], acc => some acc
  | (k, v) :: rest, acc =>
    match jsonKeyOf k, serdeJson v with
    | some key, some j => serdeJsonEntries rest (objInsert acc key j)
    | _, _ => none
def serdeJsonFields : List (String × Data) → List (Str × Json) → Option (List (Str × Json))
  | [], acc => some acc
  | (f, v) :: rest, acc =>
    match serdeJson v with
    | some j => serdeJsonFields rest (objInsert acc f.toList j)
    | none => none
end

end Serde
end Cel
